import GoitProofs.Lemmas.BSearch
import GoitProofs.Lemmas.TreeBuild

/-! Order structure of the trees `writeTreeObject` builds from a canonical (strictly ascending) entry list:
    the children of every tree are strictly ascending in *directory-aware* order (a directory `d` counts as
    `d/`), hence a file precedes a directory of the same name and no two directories share a name. -/

open TreeBuild

/-- the directory-aware sort key of a path's first component: the path itself for a plain name, `first/` otherwise -/
def keyE : Bytes → Bytes
  | [] => []
  | x :: xs => if x = 47 then [47] else x :: keyE xs

theorem TreeBuild.keyE_cons (x : UInt8) (xs : Bytes) : keyE (x :: xs) = x :: if x = 47 then [] else keyE xs := by
  by_cases h : x = 47 <;> simp [keyE, h]

theorem TreeBuild.keyE_mono {a b : Bytes} (h : a < b) : keyE a ≤ keyE b := by
  induction a generalizing b with
  | nil => exact List.nil_le _
  | cons x xs ih =>
    cases b with
    | nil => exact absurd h (List.not_lt_nil _)
    | cons y ys =>
      rw [keyE_cons, keyE_cons]
      rcases List.cons_lt_cons_iff.1 h with hxy | ⟨rfl, hlt⟩
      · exact List.le_of_lt (List.cons_lt_cons_iff.2 (Or.inl hxy))
      · refine List.cons_le_cons_iff.2 (Or.inr ⟨rfl, ?_⟩)
        split
        · exact List.le_refl _
        · exact ih hlt

theorem TreeBuild.keyE_eq_self (p : Bytes) (h : (47 : UInt8) ∉ p) : keyE p = p := by
  induction p with
  | nil => rfl
  | cons a as ih => rw [keyE_cons, if_neg (List.ne_of_not_mem_cons h).symm, ih (List.not_mem_of_not_mem_cons h)]

theorem TreeBuild.keyE_append (d x : Bytes) (h : (47 : UInt8) ∉ d) : keyE (d ++ 47 :: x) = d ++ [47] := by
  induction d with
  | nil => rfl
  | cons a as ih =>
    rw [List.cons_append, keyE_cons, if_neg (List.ne_of_not_mem_cons h).symm, ih (List.not_mem_of_not_mem_cons h)]
    rfl

theorem TreeBuild.keyE_of_cut {p m n : Bytes} (hc : Bytes.cut1 47 p = (m, some n)) : keyE p = m ++ [47] := by
  obtain ⟨rfl, h⟩ := (Bytes.cut1_eq_some_iff _ _ _ _).1 hc
  exact keyE_append m n h

theorem TreeBuild.keyE_eq_self_of_key (p : Bytes) (h : (47 : UInt8) ∉ keyE p) : keyE p = p :=
  keyE_eq_self p fun hp => by
    obtain ⟨s, t, rfl, hs⟩ := List.eq_append_cons_of_mem hp
    exact h (keyE_append s t hs ▸ by simp)

theorem TreeBuild.leaf_lt {p q : Bytes} (h47 : (47 : UInt8) ∉ p) (hlt : p < q) : p < keyE q := by
  refine Std.lt_of_le_of_ne (keyE_eq_self p h47 ▸ keyE_mono hlt) fun heq => ?_
  rw [keyE_eq_self_of_key q (heq ▸ h47)] at heq
  exact List.lt_irrefl _ (heq ▸ hlt)

theorem TreeBuild.lt_of_append_lt_append (c : Bytes) {a b : Bytes} (h : c ++ a < c ++ b) : a < b := by
  induction c with
  | nil => exact h
  | cons x xs ih => exact ih ((List.cons_lt_cons_iff.1 h).resolve_left (UInt8.lt_irrefl x)).2

def TreeBuild.Item.key : Item → Bytes
  | .leaf n _ => n
  | .dir d _ => d ++ [47]

/-- the entries the single pass has buffered for the open directory, with their full paths -/
def pend (dn : Bytes) (buf : List Entry) : List Entry := if dn ≠ [] then pre dn buf else []

/-- paths still to be emitted by `group dn buf es`, in order -/
def PL (dn : Bytes) (buf es : List Entry) : List Bytes := (pend dn buf ++ es).map (·.path)

theorem TreeBuild.pairwise_cons_lt {a b : Bytes} {l : List Bytes} (h : a < b) (hp : (b :: l).Pairwise (· < ·)) :
    (a :: b :: l).Pairwise (· < ·) :=
  List.pairwise_cons.2 ⟨fun x hx => (List.mem_cons.1 hx).elim (· ▸ h) fun hx =>
    lt_trans' h ((List.pairwise_cons.1 hp).1 x hx), hp⟩

/-- The keys `group` emits ascend strictly above any `k` that is below all keys still to come, provided the key of
    the open directory `dn` is not above those of the entries left. The buffer plays no part. -/
theorem TreeBuild.group_keys_above (dn : Bytes) (buf es : List Entry) (k : Bytes)
    (hV : es.Pairwise (fun a b => a.path < b.path)) (hk : ∀ e ∈ es, k < keyE e.path)
    (hopen : dn ≠ [] → k < dn ++ [47] ∧ ∀ e ∈ es, dn ++ [47] ≤ keyE e.path) :
    (k :: (group dn buf es).map Item.key).Pairwise (· < ·) := by
  -- the seven cases of `group` as at `TreeBuild.group_flat`: the input ends (1, 2), a file (3, 4), a directory entry (5, 6, 7)
  fun_induction group dn buf es generalizing k with
  | case1 dn buf h => exact List.pairwise_pair.2 (hopen h).1
  | case2 => exact List.pairwise_singleton _ _
  | case3 dn buf e es x hc h ih =>
    obtain ⟨-, h47⟩ := (Bytes.cut1_eq_none_iff _ _ _).1 hc
    obtain ⟨hV1, hV2⟩ := List.pairwise_cons.1 hV
    obtain ⟨hkd, hlow⟩ := hopen h
    -- `dn/` < the file < everything later
    have hdl : dn ++ [47] < e.path :=
      Std.lt_of_le_of_ne (keyE_eq_self _ h47 ▸ hlow e List.mem_cons_self) fun heq => h47 (heq ▸ by simp)
    exact pairwise_cons_lt hkd (pairwise_cons_lt hdl (ih e.path hV2
      (fun e' he' => leaf_lt h47 (hV1 e' he')) fun h => absurd rfl h))
  | case4 dn buf e es x hc h ih =>
    obtain ⟨-, h47⟩ := (Bytes.cut1_eq_none_iff _ _ _).1 hc
    obtain ⟨hV1, hV2⟩ := List.pairwise_cons.1 hV
    exact pairwise_cons_lt (keyE_eq_self _ h47 ▸ hk e List.mem_cons_self) (ih e.path hV2
      (fun e' he' => leaf_lt h47 (hV1 e' he')) fun h' => absurd h' h)
  | case5 buf e es m n hc ih =>
    obtain ⟨hV1, hV2⟩ := List.pairwise_cons.1 hV
    have hkm : keyE e.path = m ++ [47] := keyE_of_cut hc
    exact ih k hV2 (fun e' he' => hk e' (List.mem_cons_of_mem _ he'))
      fun _ => ⟨hkm ▸ hk e List.mem_cons_self, fun e' he' => hkm ▸ keyE_mono (hV1 e' he')⟩
  | case6 buf e es m n hc h ih =>
    exact ih k hV.tail (fun e' he' => hk e' (List.mem_cons_of_mem _ he'))
      fun h' => ⟨(hopen h').1, fun e' he' => (hopen h').2 e' (List.mem_cons_of_mem _ he')⟩
  | case7 dn buf e es m n hc h h' ih =>
    obtain ⟨hV1, hV2⟩ := List.pairwise_cons.1 hV
    obtain ⟨hkd, hlow⟩ := hopen h
    have hkm : keyE e.path = m ++ [47] := keyE_of_cut hc
    -- `dn/` ≤ `m/` since the entry is among those left, and the names differ
    have hdm : dn ++ [47] < m ++ [47] :=
      Std.lt_of_le_of_ne (hkm ▸ hlow e List.mem_cons_self) fun heq => h' (List.append_cancel_right heq)
    have hml : ∀ e' ∈ es, m ++ [47] ≤ keyE e'.path := fun e' he' => hkm ▸ keyE_mono (hV1 e' he')
    exact pairwise_cons_lt hkd (ih _ hV2 (fun e' he' => Std.lt_of_lt_of_le hdm (hml e' he'))
      fun _ => ⟨hdm, hml⟩)

/-- what `group` guarantees about an item -/
def ItemOK : Item → Prop
  | .leaf n _ => (Bytes.cut1 47 n).2 = none
  | .dir d _ => (47 : UInt8) ∉ d

theorem group_keys (dn : Bytes) (buf es : List Entry)
    (hV : (PL dn buf es).Pairwise (· < ·)) (hok : AllOK es)
    (hdn : dn ≠ [] → buf ≠ []) (hdn0 : dn = [] → buf = []) (h47 : (47 : UInt8) ∉ dn) :
    ((group dn buf es).map Item.key).Pairwise (· < ·) ∧
    ∀ it ∈ group dn buf es, (∃ q ∈ PL dn buf es, keyE q = it.key) ∧ ItemOK it := by
  obtain ⟨-, hV2, hV3⟩ := List.pairwise_append.1 (List.pairwise_map.1 hV)
  refine ⟨(List.pairwise_cons.1 (group_keys_above dn buf es [] hV2 (fun e he => ?_) fun h => ?_)).2,
    fun it hit => ?_⟩
  · obtain ⟨x, xs, hx⟩ := List.exists_cons_of_ne_nil (pathOK_ne_nil _ (hok e he))
    rw [hx, keyE_cons]
    exact List.nil_lt_cons _ _
  · -- the first buffered path has the open directory's key and precedes all that is left
    obtain ⟨b, bs, rfl⟩ := List.exists_cons_of_ne_nil (hdn h)
    refine ⟨by cases dn <;> exact List.nil_lt_cons _ _, fun e he => ?_⟩
    have := keyE_mono (hV3 ⟨b.id, dn ++ 47 :: b.path⟩ (by rw [pend, if_pos h]; exact List.mem_cons_self) e he)
    rwa [keyE_append dn b.path h47] at this
  · -- an item's key is that of any of its entries, and they are among `pend dn buf ++ es`
    have hsub := (List.sublist_flatten_of_mem (List.mem_map_of_mem (f := Item.entries) hit)).subset
    rw [group_flat dn buf es hok hdn0] at hsub
    have hwf := group_wf dn buf es (fun h => ⟨h47, hdn h⟩) it hit
    cases it with
    | leaf n i =>
      exact ⟨⟨n, List.mem_map.2 ⟨_, hsub List.mem_cons_self, rfl⟩, keyE_eq_self n hwf⟩,
        congrArg Prod.snd (Bytes.cut1_none 47 n hwf)⟩
    | dir d sub =>
      obtain ⟨b, bs, rfl⟩ := List.exists_cons_of_ne_nil hwf.2.2
      exact ⟨⟨_, List.mem_map.2 ⟨_, hsub List.mem_cons_self, rfl⟩, keyE_append d b.path hwf.2.1⟩, hwf.2.1⟩

theorem TreeBuild.group_sorted (es : List Entry) (hs : SortedKeys (es.map (·.path))) (hok : AllOK es) :
    (group [] [] es).Pairwise (fun a b => a.key < b.key) :=
  List.pairwise_map.1 (group_keys [] [] es hs hok (fun h => absurd rfl h) (fun _ => rfl) (by simp)).1

theorem TreeBuild.sub_sortedKeys (es : List Entry) (hs : SortedKeys (es.map (·.path))) (hok : AllOK es) (d : Bytes)
    (sub : List Entry) (hit : Item.dir d sub ∈ group [] [] es) : SortedKeys (sub.map (·.path)) := by
  have h := List.Pairwise.sublist ((entries_sublist es hok _ hit).map _) hs
  simp only [SortedKeys, Item.entries, List.map_map, List.pairwise_map] at h ⊢
  exact h.imp fun hab => lt_of_append_lt_append [47] (lt_of_append_lt_append d hab)
