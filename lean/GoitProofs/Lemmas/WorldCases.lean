import GoitProofs.Lemmas.World
import GoitProofs.Props.C18

/-! Each writing sub-command of `W.run` analysed once: its possible `(world, outcome)` results with the condition for each
    — a disjunction (`*_cases`), or a decision table (`*_eq`) where the result depends on a few tests only. What is said of
    a sub-command in every state is read off these (`rcases`, or `rw [..._eq]; split`). A theorem about one concrete
    invocation (`add [a]`, `branch --list`) evaluates the model function on it instead, and the read-only commands are
    unfolded where their output is stated. Only `add` keeps a `crash` outcome (its loop's, `Props/C18World`).

    The statements here, and the `world_*` results drawn from them, speak of a sub-function (`switchTo`, `commitCmd` …) and
    an arbitrary `l : Loaded`. They are statements about `run`: `run_loaded` (Lemmas/World) says that in an initialised
    repository whose path arguments are in the domain and whose start-up load returns `l`, `run H w i = exec H w l i`, and
    `exec` on a writing command is that sub-function applied to `l` (`run_cases` lists the other three shapes of `run`). -/

namespace W

/-- `unsupported`: the branch's commit does not read -/
theorem switchTo_cases (H w l n tz ts) :
    switchTo H w l n tz ts = (w, .err) ∨ switchTo H w l n tz ts = (w, .unsupported) ∨
    ∃ id c, Refs.exists_ l.refs n = true ∧ Refs.lookup l.refs n = some id ∧ commitAt H w id = some c ∧
      switchTo H w l n tz ts = (appendLogHead (setHead w n) (recLine l .checkout (some id) (some id) (clock ts 0) tz
        (asc "moving from " ++ l.ref ++ asc " to " ++ n)), .ok none) := by
  unfold switchTo
  split
  · exact .inl rfl
  · next hx =>
    split
    · exact .inr (.inl rfl)
    · next id hlk =>
      obtain ⟨id', h1, h2⟩ := Option.bind_eq_some_iff.mp hlk
      obtain ⟨c, h3, rfl⟩ := Option.map_eq_some_iff.mp h2
      exact .inr (.inr ⟨id', c, by cases he : Refs.exists_ l.refs n <;> simp_all, h1, h3, rfl⟩)

theorem switchTo_succeeds (H w l n tz ts id c) (hex : Refs.exists_ l.refs n = true) (hhd : w.head.isNone = false)
    (hlk : Refs.lookup l.refs n = some id) (hca : commitAt H w id = some c) : (switchTo H w l n tz ts).2 = .ok none := by
  simp [switchTo, hex, hhd, hlk, hca]

/-- `unsupported`: no HEAD file -/
theorem switchCreate_cases (w l create tz ts) :
    switchCreate w l create tz ts = (w, .err) ∨ switchCreate w l create tz ts = (w, .unsupported) ∨
    ∃ id c a, l.headCommit = some (id, c) ∧ Refs.add l.refs create id = .ok a ∧
      switchCreate w l create tz ts =
        (appendLogBranch (appendLogHead (setHead { w with heads := aset w.heads create (hashStr id) } create)
            (recLine l .checkout (some id) (some id) (clock ts 0) tz (asc "moving from " ++ l.ref ++ asc " to " ++ create)))
          create (recLine l .branch none (some id) (clock ts 1) tz (asc "Created from " ++ l.ref)), .ok none) := by
  unfold switchCreate
  split
  · exact .inl rfl
  · next id c hhc =>
    split
    · exact .inl rfl
    · next h => exact absurd h (Refs.add_no_crash _ _ _)
    · next a hadd =>
      split
      · exact .inr (.inl rfl)
      · exact .inr (.inr ⟨id, c, a, hhc, hadd, rfl⟩)

theorem switchCreate_succeeds (w l n tz ts id c a) (hh : l.headCommit = some (id, c)) (hadd : Refs.add l.refs n id = .ok a)
    (hhd : w.head.isNone = false) : (switchCreate w l n tz ts).2 = .ok none := by
  simp [switchCreate, hh, hadd, hhd]

theorem branchCreate_cases (w l n tz ts) :
    branchCreate w l n tz ts = (w, .err) ∨
    ∃ id c a, l.headCommit = some (id, c) ∧ Refs.add l.refs n id = .ok a ∧
      branchCreate w l n tz ts = (appendLogBranch { w with heads := aset w.heads n (hashStr id) } n
        (recLine l .branch none (some id) (clock ts 0) tz (asc "Created from " ++ l.ref)), .ok none) := by
  unfold branchCreate
  split
  · exact .inl rfl
  · next id c hhc =>
    split
    · exact .inl rfl
    · next h => exact absurd h (Refs.add_no_crash _ _ _)
    · next a hadd => exact .inr ⟨id, c, a, hhc, hadd, rfl⟩

theorem branchCreate_succeeds (w l n tz ts id c a) (hh : l.headCommit = some (id, c)) (hadd : Refs.add l.refs n id = .ok a) :
    (branchCreate w l n tz ts).2 = .ok none := by
  simp [branchCreate, hh, hadd]

/-- The old branch log is dropped, not carried over: the log of `ren` starts with these two lines. -/
def renamed (w : World) (l : Loaded) (ren id : Bytes) (tz : Int) (ts : List Int) : World :=
  let w1 := setHead { w with heads := adel (aset w.heads ren (hashStr id)) l.ref } ren
  let m1 := asc "renamed refs/heads/" ++ l.ref ++ asc " to refs/heads/" ++ ren
  let w2 := appendLogHead (appendLogHead w1 (recLine l .branch (some id) none (clock ts 0) tz m1))
              (recLine l .branch none (some id) (clock ts 1) tz m1)
  let w3 := { w2 with logHeads := adel w2.logHeads l.ref }
  let w4 := appendLogBranch w3 ren (recLine l .branch none (some id) (clock ts 2) tz (asc "Created from " ++ l.ref))
  appendLogBranch w4 ren (recLine l .branch (some id) (some id) (clock ts 3) tz
    (asc "renamed refs/heads/" ++ l.ref ++ asc " refs/heads/" ++ ren))

/-- `unsupported`: no commit on HEAD's branch, no HEAD file, or no log of the branch -/
theorem branchRename_cases (w l ren tz ts) :
    branchRename w l ren tz ts = (w, .err) ∨ branchRename w l ren tz ts = (w, .unsupported) ∨
    ∃ id c a, Refs.rename l.refs l.ref ren = .ok a ∧ l.headCommit = some (id, c) ∧
      branchRename w l ren tz ts = (renamed w l ren id tz ts, .ok none) := by
  unfold branchRename
  split
  · exact .inl rfl
  · next h => exact absurd h (Refs.rename_no_crash _ _ _)
  · exact .inr (.inl rfl)
  · next a id c hr hhc =>
    split
    · exact .inr (.inl rfl)
    · exact .inr (.inr ⟨id, c, a, hr, hhc, rfl⟩)

theorem branchRename_succeeds (w l ren tz ts id c a) (hr : Refs.rename l.refs l.ref ren = .ok a) (hh : l.headCommit = some (id, c))
    (hhd : w.head.isNone = false) (hlog : (aget w.logHeads l.ref).isNone = false) : (branchRename w l ren tz ts).2 = .ok none := by
  unfold branchRename
  rw [hr, hh]
  dsimp only
  rw [hhd, hlog, if_neg (by decide)]

/-- `unsupported`: the branch has no log -/
theorem branchDelete_cases (w l del) :
    branchDelete w l del = (w, .err) ∨ branchDelete w l del = (w, .unsupported) ∨
    ∃ a, Refs.delete l.refs l.ref del = .ok a ∧
      branchDelete w l del = ({ w with heads := adel w.heads del, logHeads := adel w.logHeads del }, .ok none) := by
  unfold branchDelete
  split
  · exact .inl rfl
  · next h => exact absurd h (Refs.delete_no_crash _ _ _)
  · next a hd =>
    split
    · exact .inr (.inl rfl)
    · exact .inr (.inr ⟨a, hd, rfl⟩)

theorem branchDelete_succeeds (w l del a) (hd : Refs.delete l.refs l.ref del = .ok a) (hlog : (aget w.logHeads del).isNone = false) :
    (branchDelete w l del).2 = .ok none := by
  simp [branchDelete, hd, hlog]

theorem branchCmd_cases (w l args list ren del tz ts) :
    branchCmd w l args list ren del tz ts = (w, .err) ∨
    (∃ out, branchCmd w l args list ren del tz ts = (w, .ok (some out))) ∨
    (∃ n, args = [n] ∧ branchCmd w l args list ren del tz ts = branchCreate w l n tz ts) ∨
    branchCmd w l args list ren del tz ts = branchRename w l ren tz ts ∨
    branchCmd w l args list ren del tz ts = branchDelete w l del := by
  -- in the order of the definition: the flag combination is refused, create, `--list`, rename, delete
  fun_cases branchCmd w l args list ren del tz ts with
  | case1 => exact .inl rfl
  | case2 => exact .inr (.inr (.inl ⟨_, rfl, rfl⟩))
  | case3 => exact .inr (.inl ⟨_, rfl⟩)
  | case4 => exact .inr (.inr (.inr (.inl rfl)))
  | case5 => exact .inr (.inr (.inr (.inr rfl)))

theorem branchCmd_rename (w l ren tz ts) (h : ren.isEmpty = false) :
    branchCmd w l [] false ren [] tz ts = branchRename w l ren tz ts := by
  unfold branchCmd; simp [h]

theorem branchCmd_delete (w l del tz ts) (h : del.isEmpty = false) :
    branchCmd w l [] false [] del tz ts = branchDelete w l del := by
  unfold branchCmd; simp [h]

theorem switchCmd_cases (H w l args create tz ts) :
    switchCmd H w l args create tz ts = (w, .err) ∨
    (∃ n, switchCmd H w l args create tz ts = switchTo H w l n tz ts) ∨
    switchCmd H w l args create tz ts = switchCreate w l create tz ts := by
  -- three refused argument shapes, then `switch <n>` and `switch -c`
  fun_cases switchCmd H w l args create tz ts with
  | case4 => exact .inr (.inl ⟨_, rfl⟩)
  | case5 => exact .inr (.inr rfl)
  | _ => exact .inl rfl

theorem switchCmd_create (H w l create tz ts) (h : create.isEmpty = false) :
    switchCmd H w l [] create tz ts = switchCreate w l create tz ts := by
  unfold switchCmd; simp [h]

theorem updateRefTo_eq (w l b id d) : updateRefTo w l b id d =
    match Refs.exists_ l.refs b, w.head.isNone, (Commit.parse d).isNone with
    | false, _, _ => (w, .err)
    | true, true, _ => ({ w with heads := aset w.heads b (hashStr id) }, .err)
    | true, false, true => (w, .unsupported)
    | true, false, false => (setHead { w with heads := aset w.heads b (hashStr id) } b, .ok none) := by
  unfold updateRefTo
  cases Refs.exists_ l.refs b <;> cases w.head.isNone <;> cases (Commit.parse d).isNone <;> rfl

/-- `unsupported`: upper-case hex digits -/
theorem updateRefCmd_cases (H w l args) :
    updateRefCmd H w l args = (w, .err) ∨ updateRefCmd H w l args = (w, .unsupported) ∨
    ∃ path hs id d, args = [path, hs] ∧ readHash hs = some id ∧ hs = hashStr id ∧ Store.get H (store w) id = .ok (.commit, d) ∧
      updateRefCmd H w l args = updateRefTo w l ((Bytes.split1 47 path).getLast?.getD []) id d := by
  -- case4: the digits are upper case; case5: everything reads; the others are refusals (path, length, digits, object)
  fun_cases updateRefCmd H w l args with
  | case4 => exact .inr (.inl rfl)
  | case5 path hs _ _ id hr hne d hg => exact .inr (.inr ⟨path, hs, id, d, rfl, hr, by simpa using hne, hg, rfl⟩)
  | _ => exact .inl rfl

/-- where `reset --soft` ends, and all that stays of a `--mixed`/`--hard` whose later stage fails -/
def resetLogged (w : World) (l : Loaded) (arg t prev : Bytes) (tz : Int) (ts : List Int) : World :=
  appendLogBranch (appendLogHead { w with heads := aset w.heads l.ref (hashStr t) }
    (recLine l .reset (some prev) (some t) (clock ts 0) tz (asc "moving to " ++ arg))) l.ref
    (recLine l .reset (some prev) (some t) (clock ts 0) tz (asc "moving to " ++ arg))

/-- where `reset --mixed` ends -/
def resetStaged (w : World) (l : Loaded) (arg t prev : Bytes) (tz : Int) (ts : List Int) (es : List Entry) : World :=
  { resetLogged w l arg t prev tz ts with index := some es }

theorem resetTo_eq (H w l s h arg t prev tz ts) : resetTo H w l s h arg t prev tz ts =
    match commitAt H w t, s, Cmds.resetEntries H (store (resetLogged w l arg t prev tz ts)) treeDepth t, h with
    | none, _, _, _ => (w, .unsupported)
    | some _, true, _, _ => (resetLogged w l arg t prev tz ts, .ok none)
    | some _, false, .ok es, false => (resetStaged w l arg t prev tz ts es, .ok none)
    | some _, false, .ok es, true =>
      ((writeEntries H (resetStaged w l arg t prev tz ts es) es).2.2,
        if (writeEntries H (resetStaged w l arg t prev tz ts es) es).1 then .ok none
        else if (writeEntries H (resetStaged w l arg t prev tz ts es) es).2.1 then .err else .unsupported)
    | some _, false, _, _ => (resetLogged w l arg t prev tz ts, .unsupported) := by
  unfold resetTo
  cases commitAt H w t with
  | none => rfl
  | some _ =>
    cases s with
    | true => rfl
    | false =>
      dsimp only [resetStaged, resetLogged]
      generalize Cmds.resetEntries H _ treeDepth t = r
      cases r <;> cases h <;> rfl

theorem resetCmd_cases (H w l soft mixed hard args tz ts) :
    resetCmd H w l soft mixed hard args tz ts = (w, .err) ∨
    ∃ s h arg t prev c, l.headCommit = some (prev, c) ∧ Refs.exists_ l.refs l.ref = true ∧
      resetCmd H w l soft mixed hard args tz ts = resetTo H w l s h arg t prev tz ts := by
  -- case4: mode, position, journal entry, HEAD's commit and branch are all there; every other case is a refusal
  fun_cases resetCmd H w l soft mixed hard args tz ts with
  | case4 => rename_i hh hx; exact .inr ⟨_, _, _, _, _, _, hh, by simpa using hx, rfl⟩
  | _ => exact .inl rfl

/-- `commit` before HEAD is rewritten; it stops here, with `err`, when there is no HEAD file. The line's old id is HEAD's
    commit only if the branch file exists. -/
def commitLogged (w1 : World) (l : Loaded) (id msg : Bytes) (tz : Int) (ts : List Int) : World :=
  appendLogBranch (appendLogHead { w1 with heads := aset w1.heads l.ref (hashStr id) }
    (recLine l .commit (if Refs.exists_ l.refs l.ref then l.headCommit.map (·.1) else none) (some id) (clock ts 1) tz msg)) l.ref
    (recLine l .commit (if Refs.exists_ l.refs l.ref then l.headCommit.map (·.1) else none) (some id) (clock ts 1) tz msg)

/-- what `commit()` stores; all that is left of a `commit` whose branch has no file and no valid name -/
abbrev commitStore (H : HashFn) (w : World) (idx : List Entry) (id data : Bytes) : World :=
  putObj (putObjs w (TreeBuild.writeTree H idx).writes.reverse) id (Obj.encode .commit data)

theorem commitWrite_eq (H w l id data msg tz ts) : commitWrite H w l id data msg tz ts =
    match Refs.exists_ l.refs l.ref || Refs.validName l.ref, w.head.isNone with
    | false, _ => (commitStore H w l.idx id data, .err)
    | true, true => (commitLogged (commitStore H w l.idx id data) l id msg tz ts, .err)
    | true, false => (setHead (commitLogged (commitStore H w l.idx id data) l id msg tz ts) l.ref, .ok none) := by
  unfold commitWrite commitStore commitLogged
  generalize putObj (putObjs w (TreeBuild.writeTree H l.idx).writes.reverse) id (Obj.encode .commit data) = w1
  cases Refs.exists_ l.refs l.ref <;> cases Refs.validName l.ref <;> cases w.head.isNone <;> rfl

/-- HEAD's snapshot as `commit` reads it: none on a branch without commit -/
def commitSnap (H : HashFn) (w : World) (l : Loaded) : Res (Option (List Entry)) :=
  if l.headCommit.isNone then .ok none else (headSnap H w l).map some

/-- The case `commitReached = true` is the one refusal that changes the world: `commit()` was entered and wrote the trees. -/
theorem commitCmd_cases (H w l msg tz ts) :
    ((∀ snap, commitSnap H w l ≠ .ok snap) ∧ commitCmd H w l msg tz ts = (w, .unsupported)) ∨
    ((∀ snap, commitSnap H w l ≠ .ok snap) ∧ commitCmd H w l msg tz ts = (w, .err)) ∨
    ∃ snap, commitSnap H w l = .ok snap ∧
      ((Cmds.commitCmd H (commitIn w l snap msg tz (clock ts 0)) = .err ∧
          commitReached H (commitIn w l snap msg tz (clock ts 0)) l = false ∧ commitCmd H w l msg tz ts = (w, .err)) ∨
       (Cmds.commitCmd H (commitIn w l snap msg tz (clock ts 0)) = .err ∧
          commitReached H (commitIn w l snap msg tz (clock ts 0)) l = true ∧
          commitCmd H w l msg tz ts = (putObjs w (TreeBuild.writeTree H l.idx).writes.reverse, .err)) ∨
       ∃ id data, Cmds.commitCmd H (commitIn w l snap msg tz (clock ts 0)) = .ok (id, data) ∧
          commitCmd H w l msg tz ts = commitWrite H w l id data msg tz ts) := by
  -- in order: HEAD's snapshot is `crash`, is `err` (two outcomes), then `ok snap` with the command model's three answers
  fun_cases commitCmd H w l msg tz ts with
  | case1 _ hs => exact .inl ⟨fun _ e => (nomatch hs.symm.trans e), rfl⟩
  | case2 _ hs => exact .inl ⟨fun _ e => (nomatch hs.symm.trans e), rfl⟩
  | case3 _ hs => exact .inr (.inl ⟨fun _ e => (nomatch hs.symm.trans e), rfl⟩)
  | case4 _ _ _ _ hc => exact absurd hc (Cmds.commitCmd_no_crash _ _)
  | case5 _ snap hs _ hcc hr => exact .inr (.inr ⟨snap, hs, .inr (.inl ⟨hcc, hr, rfl⟩)⟩)
  | case6 _ snap hs _ hcc hr => exact .inr (.inr ⟨snap, hs, .inl ⟨hcc, eq_false_of_ne_true hr, rfl⟩⟩)
  | case7 _ snap hs _ id data hcc => exact .inr (.inr ⟨snap, hs, .inr (.inr ⟨id, data, hcc, rfl⟩)⟩)

theorem commitCmd_succeeds (H w l msg tz ts snap id data) (hs : commitSnap H w l = .ok snap)
    (hcc : Cmds.commitCmd H (commitIn w l snap msg tz (clock ts 0)) = .ok (id, data))
    (hhd : w.head.isNone = false) (hvn : Refs.validName l.ref = true) : (commitCmd H w l msg tz ts).2 = .ok none := by
  unfold commitSnap at hs
  unfold commitCmd
  simp only [hs, hcc]
  rw [commitWrite_eq, hvn, Bool.or_true, hhd]

theorem addCmd_cases (H w l args) :
    (∃ o, (o = .err ∨ o = .unsupported) ∧ addCmd H w l args = (w, o)) ∨
    (args.isEmpty = false ∧
      (args.all fun a => Cmds.existsOnDisk (ws w l []) (Cmds.cleanPath a) || IndexOps.found l.idx (Cmds.cleanPath a)) = true ∧
      addCmd H w l args =
        (setIndexIfChanged ((addArgsP H (ws w l []) args l.idx []).blobs.foldl (putBlob H) w) l.idx (addArgsP H (ws w l []) args l.idx []).idx,
          if (addArgsP H (ws w l []) args l.idx []).crash then .crash else if (addArgsP H (ws w l []) args l.idx []).ok then .ok none else .err)) := by
  unfold addCmd
  by_cases h1 : (!ignoreOK w) = true
  · rw [if_pos h1]; exact .inl ⟨_, .inr rfl, rfl⟩
  rw [if_neg h1]
  by_cases h2 : args.isEmpty = true
  · rw [if_pos h2]; exact .inl ⟨_, .inl rfl, rfl⟩
  rw [if_neg h2]
  split
  · exact .inl ⟨_, .inl rfl, rfl⟩
  · next h3 =>
    rw [Bool.not_eq_true] at h2; rw [Bool.not_eq_true, Bool.not_eq_false'] at h3
    exact .inr ⟨h2, h3, rfl⟩

theorem rmCmd_cases (w l args) :
    (∃ o, (o = .err ∨ o = .unsupported) ∧ rmCmd w l args = (w, o)) ∨
    ((args.all fun a => IndexOps.found l.idx (Cmds.cleanPath a) || IndexOps.isDir l.idx (Cmds.cleanPath a)) = true ∧
      rmCmd w l args =
        (setIndexIfChanged { w with files := w.files.filter (fun f => !(rmArgsP args l.idx []).2.2.contains f.1) } l.idx (rmArgsP args l.idx []).2.1,
          if (rmArgsP args l.idx []).1 then .ok none else .err)) := by
  unfold rmCmd
  split
  · exact .inl ⟨_, .inl rfl, rfl⟩
  next h1 =>
  by_cases h : (rmArgsP args l.idx []).2.2.any (fun p => w.dirs.contains p) = true
  · exact .inl ⟨_, .inr rfl, if_pos h⟩
  · rw [Bool.not_eq_true, Bool.not_eq_false'] at h1
    exact .inr ⟨h1, if_neg h⟩

theorem configCmd_cases (w g args) :
    configCmd w g args = (w, .err) ∨
    ∃ key value c, args = [key, value] ∧ Cmds.configCmd (if g then w.cfgGlobal else w.cfgLocal) key value = .ok c ∧
      configCmd w g args =
        (if g then { (if w.cfgLocal.isNone then { w with cfgLocal := some [] } else w) with cfgGlobal := some (Config.render c) }
          else { (if w.cfgLocal.isNone then { w with cfgLocal := some [] } else w) with cfgLocal := some (Config.render c) }, .ok none) := by
  unfold configCmd
  split
  · split
    · next c hc => exact .inr ⟨_, _, c, rfl, hc, rfl⟩
    · exact .inl rfl
    · next h => exact absurd h (Cmds.configCmd_no_crash _ _ _)
  · exact .inl rfl

/-- `headSnap = crash`: HEAD's commit has no `tree` line -/
theorem restoreCmd_eq (H w l staged args) : restoreCmd H w l staged args =
    match args.isEmpty, staged, (aget w.heads l.ref).isNone, headSnap H w l with
    | true, _, _, _ => (w, .err)
    | false, false, _, _ => restoreWorkP H l.idx w args
    | false, true, false, .ok snap => (setIndexIfChanged w l.idx (Cmds.restoreStagedArgs snap args l.idx).2,
        if (Cmds.restoreStagedArgs snap args l.idx).1 then .ok none else .err)
    | false, true, false, .crash => (w, .unsupported)
    | false, true, _, _ => (w, .err) := by
  unfold restoreCmd
  cases args.isEmpty <;> cases staged <;> cases (aget w.heads l.ref).isNone <;> cases headSnap H w l <;> rfl

/-- `unsupported`: a file named like one of Goit's own is in the way; `err`: the global configuration does not load -/
theorem initCmd_cases (w) :
    initCmd w = (w, .unsupported) ∨ initCmd w = (w, .err) ∨
    initCmd w = ({ w with inited := true, head := some (Head.render (asc "main")), cfgLocal := some [] }, .ok none) := by
  -- `rfl` would do, by evaluating the two strings in the elaborator and again in the kernel
  have hm : Head.render (asc "main") = asc "ref: refs/heads/main" := by decide +kernel
  unfold initCmd
  rw [hm]
  split
  · exact .inl rfl
  · split
    · exact .inr (.inl rfl)
    · exact .inr (.inr rfl)

end W
