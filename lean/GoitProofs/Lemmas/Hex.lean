import GoitModel.Obj

namespace Hex

-- per byte, what the lemmas about `encode` need: both digits decode to their nibble, the nibbles recombine (`decode_encode`),
-- the digits are lower-case hex (`encode_all_lower`) and neither a blank nor a tab (the separators of the formats that embed ids)
theorem byte_roundtrip (b : UInt8) :
    val? (digit (b >>> 4)) = some (b >>> 4) ∧ val? (digit (b &&& 15)) = some (b &&& 15) ∧
    ((b >>> 4) <<< 4 ||| (b &&& 15)) = b ∧ isLowerHex (digit (b >>> 4)) = true ∧ isLowerHex (digit (b &&& 15)) = true ∧
    digit (b >>> 4) ≠ 32 ∧ digit (b &&& 15) ≠ 32 ∧ digit (b >>> 4) ≠ 9 ∧ digit (b &&& 15) ≠ 9 := by
  -- a fact about one byte: checked on the 256 values
  have all {P : UInt8 → Prop} (h : ∀ n : Fin 256, P (UInt8.ofNat n.val)) : ∀ b, P b := fun b => by
    simpa using h ⟨b.toNat, b.toNat_lt⟩
  revert b
  apply all
  decide +kernel

theorem decode_encode (b : Bytes) : decode? (encode b) = some b := by
  induction b with
  | nil => rfl
  | cons x xs ih =>
    obtain ⟨h1, h2, h3, -⟩ := byte_roundtrip x
    simp [encode, decode?, h1, h2, ih, h3]

theorem encode_length (b : Bytes) : (encode b).length = 2 * b.length := by
  induction b with
  | nil => rfl
  | cons x xs ih => simp [encode, ih]; omega

theorem encode_all_lower (b : Bytes) : ∀ c ∈ encode b, isLowerHex c = true := by
  induction b with
  | nil => exact fun _ h => nomatch h
  | cons x xs ih =>
    obtain ⟨-, -, -, h4, h5, -⟩ := byte_roundtrip x
    exact List.forall_mem_cons.2 ⟨h4, List.forall_mem_cons.2 ⟨h5, ih⟩⟩

theorem encode_not_mem (b : Bytes) (c : UInt8) (hc : isLowerHex c = false) : c ∉ encode b :=
  fun h => absurd (encode_all_lower b c h) (by rw [hc]; decide)

theorem encode_no_tab (b : Bytes) : (9 : UInt8) ∉ encode b := encode_not_mem b 9 rfl

end Hex

theorem hasLowerHexRun_all (need run : Nat) (s : Bytes) (h : ∀ c ∈ s, Hex.isLowerHex c = true)
    (hl : need ≤ run + s.length) : hasLowerHexRun need run s = true := by
  induction s generalizing run with
  | nil => exact decide_eq_true hl
  | cons c cs ih =>
    rw [hasLowerHexRun, h c List.mem_cons_self, if_pos rfl, ih (run + 1) (fun x hx => h x (List.mem_cons_of_mem _ hx))
      (by rw [List.length_cons] at hl; omega)]
    exact ite_self _

theorem readHash_hashStr (id : Bytes) (h : id.length = 20) : readHash (hashStr id) = some id := by
  rw [readHash, hasLowerHexRun_all 40 0 _ (Hex.encode_all_lower id) (by rw [Hex.encode_length, h]; decide), if_pos rfl,
    Hex.decode_encode]

theorem hasLowerHexRun_len (need run : Nat) (s : Bytes) (h : hasLowerHexRun need run s = true) : need ≤ run + s.length := by
  induction s generalizing run with
  | nil => simp [hasLowerHexRun] at h; omega
  | cons c cs ih =>
    unfold hasLowerHexRun at h
    split at h
    · simp; omega
    · split at h
      · have := ih (run + 1) h; simp; omega
      · have := ih 0 h; simp; omega

theorem Hex.decode?_length : ∀ (s b : Bytes), Hex.decode? s = some b → b.length * 2 = s.length
  | [], b, h => by simp [Hex.decode?] at h; subst h; rfl
  | [_], b, h => by simp [Hex.decode?] at h
  | a :: c :: rest, b, h => by
    unfold Hex.decode? at h
    split at h
    · rename_i x y r hx hy hr
      injection h with h; subst h
      have := Hex.decode?_length rest r hr
      simp; omega
    · cases h

theorem readHash_ne_nil (s id : Bytes) (h : readHash s = some id) : id ≠ [] := by
  unfold readHash at h
  split at h
  · rename_i hr
    have h1 := hasLowerHexRun_len 40 0 s hr
    have h2 := Hex.decode?_length s id h
    intro e; subst e; simp at h2; omega
  · cases h
