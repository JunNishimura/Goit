import GoitProofs.Lemmas.Bytes

/-! `bufio.Scanner` line splitting on a text made of newline-terminated lines. -/

namespace Bytes

/-- the text of newline-terminated lines -/
def unlines (ls : List Bytes) : Bytes := (ls.map (· ++ [10])).flatten

theorem unlines_cons (l : Bytes) (ls : List Bytes) : unlines (l :: ls) = l ++ [10] ++ unlines ls := rfl

theorem split1_unlines (ls : List Bytes) (h : ∀ l ∈ ls, (10 : UInt8) ∉ l) :
    split1 10 (unlines ls) = ls ++ [[]] := by
  induction ls with
  | nil => rfl
  | cons l ls ih =>
    rw [unlines_cons, List.append_assoc, List.singleton_append, split1_append 10 l _ (h l List.mem_cons_self),
      ih fun x hx => h x (List.mem_cons_of_mem _ hx)]
    rfl

theorem rawLines_unlines (ls : List Bytes) (h : ∀ l ∈ ls, (10 : UInt8) ∉ l) : rawLines (unlines ls) = ls := by
  have hs := split1_unlines ls h
  cases hu : unlines ls with
  | nil =>
    cases ls with
    | nil => rfl
    | cons l ls => simp [unlines] at hu
  | cons c cs =>
    rw [hu] at hs
    simp [rawLines, hs]

/-- a line the scanner delivers unchanged: no newline, shorter than the token limit, not ending in `\r` -/
def LineOK (l : Bytes) : Prop := (10 : UInt8) ∉ l ∧ l.length < maxToken ∧ l.getLast? ≠ some 13

theorem dropCR_ok (l : Bytes) (h : l.getLast? ≠ some 13) : dropCR l = l := by
  rw [List.getLast?_eq_head?_reverse] at h
  unfold dropCR
  split
  · next r hr => rw [hr] at h; exact absurd rfl h
  · rfl

theorem map_dropCR (ls : List Bytes) (h : ∀ l ∈ ls, l.getLast? ≠ some 13) : ls.map dropCR = ls :=
  (List.map_congr_left fun l hl => dropCR_ok l (h l hl)).trans (List.map_id' ls)

theorem scanLines_unlines (ls : List Bytes) (h : ∀ l ∈ ls, LineOK l) : scanLines (unlines ls) = ls := by
  unfold scanLines
  rw [rawLines_unlines ls (fun l hl => (h l hl).1), List.takeWhile_eq_self _ ls (fun l hl => by simpa using (h l hl).2.1),
    map_dropCR ls (fun l hl => (h l hl).2.2)]

theorem scanLinesE_unlines (ls : List Bytes) (h : ∀ l ∈ ls, LineOK l) : scanLinesE (unlines ls) = some ls := by
  unfold scanLinesE
  rw [rawLines_unlines ls (fun l hl => (h l hl).1), map_dropCR ls (fun l hl => (h l hl).2.2)]
  have : ls.all (fun l => decide (l.length < maxToken)) = true := by
    simp only [List.all_eq_true, decide_eq_true_eq]
    exact fun l hl => (h l hl).2.1
  rw [if_pos this]

theorem unlines_append (a b : List Bytes) : unlines (a ++ b) = unlines a ++ unlines b := by
  simp [unlines]

end Bytes
