import GoitModel.World

/-! The primitives of `GoitModel/World.lean` and the shape of one invocation. A lemma `f_field` says that the primitive `f`
    leaves the store `field` alone (a prime in such a name carries no meaning). For `setHead` and the two log appends that is
    `rfl`; for the object writers, the blob writer and `restore` it is an instance of `putObj_field`, `putObjs_field`,
    `writeEntries_field`, `restoreWorkP_field`: a function of the world that does not look at the store written has the same
    value afterwards. `run_cases` gives the shape of an invocation: refused, outside the model, `init`, or `exec` on what
    the start-up load returned (`load_some`, `loadHead_some`); `run_loaded` is its last case alone. -/

namespace W

theorem aget_cons (l : List (Bytes × Bytes)) (k v x : Bytes) :
    aget ((k, v) :: l) x = if k == x then some v else aget l x := by
  unfold aget; simp only [List.find?_cons]; split <;> simp_all

theorem aget_adel (l : List (Bytes × Bytes)) (k b : Bytes) :
    aget (adel l k) b = if b = k then none else aget l b := by
  unfold adel aget
  rw [List.find?_filter]
  by_cases h : b = k
  · subst h; simp
  · rw [if_neg h]
    congr 2
    funext p
    by_cases hp : p.1 = b <;> simp [hp, h]

theorem aget_aset (l : List (Bytes × Bytes)) (k v b : Bytes) :
    aget (aset l k v) b = if b = k then some v else aget l b := by
  unfold aset
  rw [aget_cons, aget_adel]
  by_cases h : b = k
  · simp [h]
  · have hk : (k == b) = false := by simpa using fun e => h e.symm
    simp [hk, h]

theorem aget_aset_self (l : List (Bytes × Bytes)) (k v : Bytes) : aget (aset l k v) k = some v := by
  rw [aget_aset, if_pos rfl]

theorem aget_aset_ne (l : List (Bytes × Bytes)) (k v b : Bytes) (h : b ≠ k) : aget (aset l k v) b = aget l b := by
  rw [aget_aset, if_neg h]

theorem aget_adel_self (l : List (Bytes × Bytes)) (k : Bytes) : aget (adel l k) k = none := by
  rw [aget_adel, if_pos rfl]

theorem aget_adel_ne (l : List (Bytes × Bytes)) (k b : Bytes) (h : b ≠ k) : aget (adel l k) b = aget l b := by
  rw [aget_adel, if_neg h]

theorem nodup_adel (l : List (Bytes × Bytes)) (k : Bytes) (h : (l.map (·.1)).Nodup) : ((adel l k).map (·.1)).Nodup := by
  unfold adel
  exact h.sublist (List.Sublist.map _ List.filter_sublist)

theorem not_mem_adel (l : List (Bytes × Bytes)) (k : Bytes) : k ∉ (adel l k).map (·.1) := by
  unfold adel
  intro hm
  obtain ⟨p, hp, hpk⟩ := List.mem_map.mp hm
  have := (List.mem_filter.mp hp).2
  simp [hpk] at this

theorem nodup_aset (l : List (Bytes × Bytes)) (k v : Bytes) (h : (l.map (·.1)).Nodup) : ((aset l k v).map (·.1)).Nodup := by
  unfold aset
  simp only [List.map_cons]
  exact List.nodup_cons.mpr ⟨not_mem_adel l k, nodup_adel l k h⟩

theorem isEmpty_of_aget {l : List (Bytes × Bytes)} {k v : Bytes} (h : aget l k = some v) : l.isEmpty = false := by
  cases l with
  | nil => cases h
  | cons _ _ => rfl

@[simp] theorem setHead_objs (w : World) (b : Bytes) : (setHead w b).objs = w.objs := rfl
@[simp] theorem setHead_logHead (w : World) (b : Bytes) : (setHead w b).logHead = w.logHead := rfl
@[simp] theorem setHead_heads (w : World) (b : Bytes) : (setHead w b).heads = w.heads := rfl
@[simp] theorem setHead_index (w : World) (b : Bytes) : (setHead w b).index = w.index := rfl
@[simp] theorem setHead_files (w : World) (b : Bytes) : (setHead w b).files = w.files := rfl
@[simp] theorem setHead_logHeads (w : World) (b : Bytes) : (setHead w b).logHeads = w.logHeads := rfl

@[simp] theorem appendLogHead_objs (w : World) (l : Bytes) : (appendLogHead w l).objs = w.objs := rfl
@[simp] theorem appendLogHead_heads (w : World) (l : Bytes) : (appendLogHead w l).heads = w.heads := rfl
@[simp] theorem appendLogHead_head (w : World) (l : Bytes) : (appendLogHead w l).head = w.head := rfl
@[simp] theorem appendLogHead_index (w : World) (l : Bytes) : (appendLogHead w l).index = w.index := rfl
@[simp] theorem appendLogHead_files (w : World) (l : Bytes) : (appendLogHead w l).files = w.files := rfl
@[simp] theorem appendLogHead_logHead (w : World) (l : Bytes) :
    (appendLogHead w l).logHead = some (w.logHead.getD [] ++ l) := rfl
@[simp] theorem appendLogBranch_objs (w : World) (b l : Bytes) : (appendLogBranch w b l).objs = w.objs := rfl
@[simp] theorem appendLogBranch_heads (w : World) (b l : Bytes) : (appendLogBranch w b l).heads = w.heads := rfl
@[simp] theorem appendLogBranch_head (w : World) (b l : Bytes) : (appendLogBranch w b l).head = w.head := rfl
@[simp] theorem appendLogBranch_index (w : World) (b l : Bytes) : (appendLogBranch w b l).index = w.index := rfl
@[simp] theorem appendLogBranch_files (w : World) (b l : Bytes) : (appendLogBranch w b l).files = w.files := rfl
@[simp] theorem appendLogBranch_logHead (w : World) (b l : Bytes) : (appendLogBranch w b l).logHead = w.logHead := rfl

/-- for any `f` the object store does not enter into -/
theorem putObj_field {α} (f : World → α) (hf : ∀ w v, f { w with objs := v } = f w) (w : World) (id c : Bytes) :
    f (putObj w id c) = f w := by
  unfold putObj; split
  · rfl
  · exact hf _ _

theorem putObjs_field {α} (f : World → α) (hf : ∀ w v, f { w with objs := v } = f w) (w : World) (os : List (Bytes × Bytes)) :
    f (putObjs w os) = f w := by
  unfold putObjs
  induction os generalizing w with
  | nil => rfl
  | cons o os ih => simp only [List.foldl_cons]; rw [ih, putObj_field f hf]

/-- the blobs of `add` go in by `putObjs` too, so what holds of `putObjs` holds of them -/
theorem putBlobs_eq (H : HashFn) (w : World) (ds : List Bytes) :
    ds.foldl (putBlob H) w = putObjs w (ds.map fun d => (Obj.id H .blob d, Obj.encode .blob d)) := by
  unfold putObjs; rw [List.foldl_map]; rfl

theorem putBlobs_field {α} (H : HashFn) (f : World → α) (hf : ∀ w v, f { w with objs := v } = f w) (w : World) (ds : List Bytes) :
    f (ds.foldl (putBlob H) w) = f w := by
  rw [putBlobs_eq]; exact putObjs_field f hf w _

@[simp] theorem putObj_files' (w : World) (id c : Bytes) : (putObj w id c).files = w.files := putObj_field _ (fun _ _ => rfl) w id c
@[simp] theorem putObj_head' (w : World) (id c : Bytes) : (putObj w id c).head = w.head := putObj_field _ (fun _ _ => rfl) w id c
@[simp] theorem putObj_heads' (w : World) (id c : Bytes) : (putObj w id c).heads = w.heads := putObj_field _ (fun _ _ => rfl) w id c
@[simp] theorem putObj_index' (w : World) (id c : Bytes) : (putObj w id c).index = w.index := putObj_field _ (fun _ _ => rfl) w id c
@[simp] theorem putObj_logHead' (w : World) (id c : Bytes) : (putObj w id c).logHead = w.logHead := putObj_field _ (fun _ _ => rfl) w id c
@[simp] theorem putObj_logHeads' (w : World) (id c : Bytes) : (putObj w id c).logHeads = w.logHeads := putObj_field _ (fun _ _ => rfl) w id c

@[simp] theorem putObjs_files' (w : World) (os : List (Bytes × Bytes)) : (putObjs w os).files = w.files := putObjs_field _ (fun _ _ => rfl) w os
@[simp] theorem putObjs_head' (w : World) (os : List (Bytes × Bytes)) : (putObjs w os).head = w.head := putObjs_field _ (fun _ _ => rfl) w os
@[simp] theorem putObjs_heads' (w : World) (os : List (Bytes × Bytes)) : (putObjs w os).heads = w.heads := putObjs_field _ (fun _ _ => rfl) w os
@[simp] theorem putObjs_index' (w : World) (os : List (Bytes × Bytes)) : (putObjs w os).index = w.index := putObjs_field _ (fun _ _ => rfl) w os
@[simp] theorem putObjs_logHead' (w : World) (os : List (Bytes × Bytes)) : (putObjs w os).logHead = w.logHead := putObjs_field _ (fun _ _ => rfl) w os
@[simp] theorem putObjs_logHeads' (w : World) (os : List (Bytes × Bytes)) : (putObjs w os).logHeads = w.logHeads := putObjs_field _ (fun _ _ => rfl) w os

@[simp] theorem putBlobs_head' (H : HashFn) (w : World) (ds : List Bytes) : (List.foldl (putBlob H) w ds).head = w.head := putBlobs_field H _ (fun _ _ => rfl) w ds
@[simp] theorem putBlobs_heads' (H : HashFn) (w : World) (ds : List Bytes) : (List.foldl (putBlob H) w ds).heads = w.heads := putBlobs_field H _ (fun _ _ => rfl) w ds
@[simp] theorem putBlobs_index' (H : HashFn) (w : World) (ds : List Bytes) : (List.foldl (putBlob H) w ds).index = w.index := putBlobs_field H _ (fun _ _ => rfl) w ds
@[simp] theorem putBlobs_logHead' (H : HashFn) (w : World) (ds : List Bytes) : (List.foldl (putBlob H) w ds).logHead = w.logHead := putBlobs_field H _ (fun _ _ => rfl) w ds
@[simp] theorem putBlobs_logHeads' (H : HashFn) (w : World) (ds : List Bytes) : (List.foldl (putBlob H) w ds).logHeads = w.logHeads := putBlobs_field H _ (fun _ _ => rfl) w ds

theorem setIndexIfChanged_cases (w : World) (o n : List Entry) :
    setIndexIfChanged w o n = w ∨ setIndexIfChanged w o n = { w with index := some n } := by
  unfold setIndexIfChanged; split <;> simp

theorem setIndexIfChanged_eq (w : World) (o n : List Entry) :
    setIndexIfChanged w o n = { w with index := (setIndexIfChanged w o n).index } := by
  rcases setIndexIfChanged_cases w o n with h | h <;> rw [h]

theorem setIndexIfChanged_index_eq (w : World) (o n : List Entry) :
    (setIndexIfChanged w o n).index = if n = o then w.index else some n := by
  unfold setIndexIfChanged; split <;> rfl

@[simp] theorem setIndexIfChanged_objs' (w : World) (o n : List Entry) : (setIndexIfChanged w o n).objs = w.objs := by
  rw [setIndexIfChanged_eq]
@[simp] theorem setIndexIfChanged_files' (w : World) (o n : List Entry) : (setIndexIfChanged w o n).files = w.files := by
  rw [setIndexIfChanged_eq]
@[simp] theorem setIndexIfChanged_head' (w : World) (o n : List Entry) : (setIndexIfChanged w o n).head = w.head := by
  rw [setIndexIfChanged_eq]
@[simp] theorem setIndexIfChanged_heads' (w : World) (o n : List Entry) : (setIndexIfChanged w o n).heads = w.heads := by
  rw [setIndexIfChanged_eq]
@[simp] theorem setIndexIfChanged_logHead' (w : World) (o n : List Entry) : (setIndexIfChanged w o n).logHead = w.logHead := by
  rw [setIndexIfChanged_eq]
@[simp] theorem setIndexIfChanged_logHeads' (w : World) (o n : List Entry) : (setIndexIfChanged w o n).logHeads = w.logHeads := by
  rw [setIndexIfChanged_eq]

/-- for any `f` the working tree does not enter into, however far the blob writer gets -/
theorem writeEntries_field {α} (H : HashFn) (f : World → α) (hf : ∀ w p d, f (writeFile w p d) = f w) (w : World) (es : List Entry) :
    f (writeEntries H w es).2.2 = f w := by
  fun_induction writeEntries H w es with
  | case2 w e es k data _ _ ih => rw [ih, hf]   -- the one leaf that writes
  | _ => rfl

@[simp] theorem writeEntries_objs (H : HashFn) (w : World) (es) : (writeEntries H w es).2.2.objs = w.objs :=
  writeEntries_field H _ (fun _ _ _ => rfl) w es
@[simp] theorem writeEntries_heads (H : HashFn) (w : World) (es) : (writeEntries H w es).2.2.heads = w.heads :=
  writeEntries_field H _ (fun _ _ _ => rfl) w es
@[simp] theorem writeEntries_head (H : HashFn) (w : World) (es) : (writeEntries H w es).2.2.head = w.head :=
  writeEntries_field H _ (fun _ _ _ => rfl) w es
@[simp] theorem writeEntries_index (H : HashFn) (w : World) (es) : (writeEntries H w es).2.2.index = w.index :=
  writeEntries_field H _ (fun _ _ _ => rfl) w es
@[simp] theorem writeEntries_logHead' (H : HashFn) (w : World) (es : List Entry) : (writeEntries H w es).2.2.logHead = w.logHead :=
  writeEntries_field H _ (fun _ _ _ => rfl) w es
@[simp] theorem writeEntries_logHeads' (H : HashFn) (w : World) (es : List Entry) : (writeEntries H w es).2.2.logHeads = w.logHeads :=
  writeEntries_field H _ (fun _ _ _ => rfl) w es

theorem writeEntries_logHeads (H : HashFn) (w : World) (es) : (writeEntries H w es).2.2.logHeads = w.logHeads :=
  writeEntries_logHeads' H w es

theorem writeEntries_append (H : HashFn) (w : World) (es fs : List Entry) :
    writeEntries H w (es ++ fs) =
      if (writeEntries H w es).1 then writeEntries H (writeEntries H w es).2.2 fs else writeEntries H w es := by
  -- no entry left; the blob reads and the path is writable (the one case that goes on); the path is blocked; the blob does not read
  fun_induction writeEntries H w es with
  | case1 => rfl
  | case2 w e es k data hg hw ih => simp only [List.cons_append, writeEntries, hg, hw, if_true, ih]
  | case3 w e es k data hg hw => simp [writeEntries, hg, hw]
  | case4 w e es hg =>
    rw [List.cons_append, writeEntries]
    split
    · rename_i h; exact absurd h (hg _ _)
    · simp

/-- the staged entries an argument of `restore` names: the path itself, or everything beneath a tracked directory -/
def sel (idx : List Entry) (p : Bytes) : List Entry :=
  if IndexOps.isDir idx p then IndexOps.byDir idx p else idx.filter (fun e => e.path == p)

def sels (idx : List Entry) (args : List Bytes) : List Entry := args.flatMap fun a => sel idx (Cmds.cleanPath a)

/-- `restore` in the working tree is one run of the blob writer, over the entries that a prefix of the arguments names
    (all of them if it succeeds); what is known of `writeEntries` carries over -/
theorem restoreWorkP_eq (H : HashFn) (idx : List Entry) (w : World) (args : List Bytes) :
    ∃ as, as <+: args ∧ (restoreWorkP H idx w args).1 = (writeEntries H w (sels idx as)).2.2 ∧
      ∀ o, (restoreWorkP H idx w args).2 = .ok o → as = args ∧ (writeEntries H w (sels idx as)).1 = true := by
  -- no argument left; an argument that names nothing staged; its entries written (goes on); the blob writer stops (two outcomes)
  fun_induction restoreWorkP H idx w args with
  | case1 w => exact ⟨[], List.prefix_refl _, rfl, fun _ _ => ⟨rfl, rfl⟩⟩
  | case2 w a rest p reg asDir h => exact ⟨[], List.nil_prefix, rfl, nofun⟩
  | case3 w a rest p reg asDir h here b w' he ih =>
    obtain ⟨as, hp, e1, e2⟩ := ih
    have hw : writeEntries H w (sels idx (a :: as)) = writeEntries H w' (sels idx as) := by
      rw [sels, List.flatMap_cons, writeEntries_append, show writeEntries H w (sel idx (Cmds.cleanPath a)) = _ from he]; rfl
    exact ⟨a :: as, List.cons_prefix_cons.2 ⟨rfl, hp⟩, by rw [hw, e1],
      fun o ho => by rw [hw]; exact ⟨by rw [(e2 o ho).1], (e2 o ho).2⟩⟩
  | case4 w a rest p reg asDir h here w' he | case5 w a rest p reg asDir h here w' he =>
    refine ⟨[a], by simp, ?_, nofun⟩
    rw [sels, List.flatMap_cons, List.flatMap_nil, List.append_nil, show writeEntries H w (sel idx (Cmds.cleanPath a)) = _ from he]

theorem restoreWorkP_field {α} (H : HashFn) (f : World → α) (hf : ∀ w p d, f (writeFile w p d) = f w)
    (idx : List Entry) (w : World) (args : List Bytes) : f (restoreWorkP H idx w args).1 = f w := by
  obtain ⟨as, _, e, _⟩ := restoreWorkP_eq H idx w args
  rw [e]; exact writeEntries_field H f hf w _

@[simp] theorem restoreWorkP_objs' (H : HashFn) (idx : List Entry) (w : World) (args : List Bytes) :
    (restoreWorkP H idx w args).1.objs = w.objs := restoreWorkP_field H _ (fun _ _ _ => rfl) idx w args
@[simp] theorem restoreWorkP_index' (H : HashFn) (idx : List Entry) (w : World) (args : List Bytes) :
    (restoreWorkP H idx w args).1.index = w.index := restoreWorkP_field H _ (fun _ _ _ => rfl) idx w args

/-- how the object store grows: nothing stored is lost or changed (`putObj_le`, `putObjs_le`; along `run`: `runAll_grows`) -/
def OL (a b : List (Bytes × Bytes)) : Prop := ∀ id c, aget a id = some c → aget b id = some c

theorem OL.refl (a) : OL a a := fun _ _ h => h
theorem OL.trans {a b c} (h1 : OL a b) (h2 : OL b c) : OL a c := fun i x h => h2 i x (h1 i x h)

-- `OL w.objs w'.objs`, unfolded
def ObjsLe (w w' : World) : Prop := ∀ id c, aget w.objs id = some c → aget w'.objs id = some c

theorem ObjsLe.of_eq {w w' : World} (h : w'.objs = w.objs) : ObjsLe w w' := by
  intro i c hc; rw [h]; exact hc

/-- `Object.Write` skips an id that is there already: reading after it gives what was there, else the new content -/
theorem aget_putObj (w : World) (id c k : Bytes) :
    aget (putObj w id c).objs k = if k = id then some ((aget w.objs id).getD c) else aget w.objs k := by
  unfold putObj
  cases h : aget w.objs id with
  | some c0 => simp only [Option.isSome_some, if_true, Option.getD_some]; split <;> simp_all
  | none =>
    simp only [Option.isSome_none, Bool.false_eq_true, if_false, Option.getD_none, aget_cons]
    by_cases e : k = id
    · subst e; simp
    · rw [if_neg e, if_neg (fun e' => e (beq_iff_eq.1 e').symm)]

theorem putObj_le (w : World) (id c : Bytes) : OL w.objs (putObj w id c).objs := fun i x h => by
  rw [aget_putObj]; split
  · next e => subst e; rw [h]; rfl
  · exact h

theorem putObjs_le (w : World) (os : List (Bytes × Bytes)) : OL w.objs (putObjs w os).objs := by
  unfold putObjs
  induction os generalizing w with
  | nil => exact OL.refl _
  | cons o os ih => simp only [List.foldl_cons]; exact (putObj_le w o.1 o.2).trans (ih _)

theorem putBlobs_le (H : HashFn) (w : World) (ds : List Bytes) : OL w.objs (ds.foldl (putBlob H) w).objs := by
  rw [putBlobs_eq]; exact putObjs_le w _

/-- the dispatch of `run` once the start-up load has returned `l`. The read-only commands leave the world as it is; their
    outcome is copied from `run`, so `exec` says nothing of it: a statement about what they print unfolds `run` itself. -/
def exec (H : HashFn) (w : World) (l : Loaded) (i : Inv) : World × Out :=
  match i.cmd with
  | .init => (w, .err)
  | .add args => addCmd H w l args
  | .rm args => rmCmd w l args
  | .commit msg => commitCmd H w l msg i.tz i.ts
  | .branch args list ren del => branchCmd w l args list ren del i.tz i.ts
  | .switch args create => switchCmd H w l args create i.tz i.ts
  | .reset s m h args => resetCmd H w l s m h args i.tz i.ts
  | .restore staged args => restoreCmd H w l staged args
  | .updateRef args => updateRefCmd H w l args
  | .config g args => configCmd w g args
  | .writeTree => (putObjs w (TreeBuild.writeTree H l.idx).writes.reverse, .ok (some (hashStr (TreeBuild.writeTree H l.idx).id ++ [10])))
  | _ => (w, (run H w i).2)

theorem run_loaded (H w i l) (hi : w.inited = true)
    (hp : (pathArgs i.cmd).all pathArgOK = true) (hl : load H w = some l) : run H w i = exec H w l i := by
  obtain ⟨cmd, tz, ts⟩ := i
  cases cmd <;> simp only [exec, run, hi, hp, hl, Bool.not_true, Bool.false_eq_true, if_false]
  -- left: the read-only commands, where `exec` is `(w, (run …).2)`; every leaf of `run` there is `(w, _)`
  repeat' split
  all_goals rfl

/-- `err`: refused; `unsupported`: outside the model -/
theorem run_cases (H w i) :
    run H w i = (w, .err) ∨ run H w i = (w, .unsupported) ∨
    (w.inited = false ∧ i.cmd = .init ∧ run H w i = initCmd w) ∨
    ∃ l, w.inited = true ∧ (pathArgs i.cmd).all pathArgOK = true ∧ load H w = some l ∧ run H w i = exec H w l i := by
  cases hi : w.inited with
  | false =>
    have e : run H w i = match i.cmd with
        | .init => initCmd w
        | _ => if shadowNames.any (fun n => (aget w.files n).isSome || w.dirs.contains n) then (w, .unsupported) else (w, .err) := by
      rw [run, hi]; rfl
    rw [e]
    obtain ⟨cmd, tz, ts⟩ := i
    cases cmd with
    | init => exact .inr (.inr (.inl ⟨rfl, rfl, rfl⟩))
    | _ =>
      dsimp only
      split
      · exact .inr (.inl rfl)
      · exact .inl rfl
  | true =>
    cases hp : (pathArgs i.cmd).all pathArgOK with
    | false => exact .inr (.inl (by rw [run, hi, hp]; rfl))
    | true =>
      cases hl : load H w with
      | none => exact .inl (by rw [run, hi, hp, hl]; rfl)
      | some l => exact .inr (.inr (.inr ⟨l, rfl, rfl, rfl, run_loaded H w i l hi hp hl⟩))

theorem run_elim {motive : World × Out → Prop} (H : HashFn) (w : World) (i : Inv)
    (same : ∀ o, motive (w, o))
    (init : w.inited = false → i.cmd = .init → motive (initCmd w))
    (loaded : ∀ l, w.inited = true → (pathArgs i.cmd).all pathArgOK = true → load H w = some l → motive (exec H w l i)) :
    motive (run H w i) := by
  rcases run_cases H w i with e | e | ⟨hi, hc, e⟩ | ⟨l, hi, hp, hl, e⟩ <;> rw [e]
  · exact same _
  · exact same _
  · exact init hi hc
  · exact loaded l hi hp hl

/-- the branch `HEAD` names, as `NewHead` reads it -/
def headRef (w : World) : Bytes :=
  match w.head with
  | none => []
  | some h => (Head.parse h).getD []

theorem load_some {H : HashFn} {w : World} {l : Loaded} (h : load H w = some l) :
    Cmds.cfgOf w.cfgLocal = some l.loc ∧ Cmds.cfgOf w.cfgGlobal = some l.glob ∧ l.idx = w.index.getD [] ∧
      loadHead H w = some (l.ref, l.headCommit) ∧ Refs.load w.heads = some l.refs := by
  unfold load at h
  split at h
  · rename_i h1 h2 h3 h4
    injection h with h; subst h
    exact ⟨h1, h2, rfl, h3, h4⟩
  · contradiction

theorem load_refs (H : HashFn) (w : World) (l : Loaded) (h : load H w = some l) : Refs.load w.heads = some l.refs :=
  (load_some h).2.2.2.2

theorem loadHead_some {H : HashFn} {w : World} {b : Bytes} {hc : Option (Bytes × Commit)} (h : loadHead H w = some (b, hc)) :
    b = headRef w ∧ ∀ id c, hc = some (id, c) →
      commitAt H w id = some c ∧ ∃ raw, aget w.heads b = some raw ∧ readHash raw = some id := by
  unfold headRef
  revert h
  fun_cases loadHead H w with
  -- no HEAD file; HEAD names a branch without a file; HEAD names a branch whose file holds the id of a stored commit
  | case1 hw => rintro ⟨⟩; rw [hw]; exact ⟨rfl, nofun⟩
  | case5 hd hw b' hp => rintro ⟨⟩; rw [hw]; exact ⟨by simp only [hp, Option.getD_some], nofun⟩
  | case7 hd hw b' hp _ raw ha id hr =>
    intro h
    obtain ⟨c, hc, ⟨⟩⟩ := Option.map_eq_some_iff.1 h
    rw [hw]
    exact ⟨by simp only [hp, Option.getD_some], fun _ _ e => by cases e; exact ⟨hc, raw, ha, hr⟩⟩
  | _ => nofun

theorem load_ref (H : HashFn) (w : World) (l : Loaded) (h : load H w = some l) : l.ref = headRef w :=
  (loadHead_some (load_some h).2.2.2.1).1

theorem load_headCommit (H : HashFn) (w : World) (l : Loaded) (h : load H w = some l) (id : Bytes) (c : Commit)
    (hc : l.headCommit = some (id, c)) :
    commitAt H w id = some c ∧ ∃ raw, aget w.heads l.ref = some raw ∧ readHash raw = some id :=
  (loadHead_some (load_some h).2.2.2.1).2 id c hc

end W
