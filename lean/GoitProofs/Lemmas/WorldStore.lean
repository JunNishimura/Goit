import GoitProofs.Lemmas.World
import GoitProofs.Lemmas.WalkMono
import GoitProofs.Props.C01

/-! What `GetObject`, `commitAt` and `treeEntries` return depends on the object store only and is stable when the store grows. -/

namespace W

open TreeCodec

theorem get_iff (H : HashFn) (w : World) (i : Bytes) (x : Kind × Bytes) :
    Store.get H (store w) i = .ok x ↔ ∃ c, aget w.objs i = some c ∧ H.sha c = i ∧ Obj.decode c = some x :=
  C01.get_eq_ok_iff H (store w) i x

theorem get_mono (H : HashFn) (w w' : World) (h : OL w.objs w'.objs) (id : Bytes) (kd : Kind × Bytes)
    (hg : Store.get H (store w) id = .ok kd) : Store.get H (store w') id = .ok kd :=
  let ⟨c, h1, h2, h3⟩ := (get_iff H w id kd).mp hg
  (get_iff H w' id kd).mpr ⟨c, h id c h1, h2, h3⟩

theorem get_stored (H : HashFn) (w : World) (k : Kind) (d : Bytes) (hk : k ≠ .undefined) (hd : d.length ≤ Fmt.int64Max)
    (ha : aget w.objs (Obj.id H k d) = some (Obj.encode k d)) : Store.get H (store w) (Obj.id H k d) = .ok (k, d) :=
  C01.get_stored H (store w) k d hk hd ha

theorem get_ne_ok_of_none (H : HashFn) (w : World) (id : Bytes) (kd : Kind × Bytes) (ha : aget w.objs id = none) :
    Store.get H (store w) id ≠ .ok kd := fun hg => by
  obtain ⟨c, h1, _⟩ := (get_iff ..).mp hg
  rw [ha] at h1; cases h1

theorem commitAt_some_get (H : HashFn) (w : World) (id : Bytes) (c : Commit) (h : commitAt H w id = some c) :
    ∃ d, Store.get H (store w) id = .ok (.commit, d) ∧ Commit.parse d = some c := by
  unfold commitAt at h
  split at h
  · exact ⟨_, by assumption, h⟩
  · cases h

theorem commitAt_of_get (H : HashFn) (w : World) (id d : Bytes) (hg : Store.get H (store w) id = .ok (.commit, d)) :
    commitAt H w id = Commit.parse d := by
  unfold commitAt; rw [hg]

theorem commitAt_of_aget (H : HashFn) (w w' : World) (id : Bytes) (h : aget w'.objs id = aget w.objs id) :
    commitAt H w' id = commitAt H w id := by
  unfold commitAt Store.get store
  rw [h]

theorem commitAt_mono (H : HashFn) (w w' : World) (h : OL w.objs w'.objs) (id : Bytes) (hc : (commitAt H w id).isSome = true) :
    (commitAt H w' id).isSome = true := by
  cases hc' : commitAt H w id with
  | none => rw [hc'] at hc; cases hc
  | some c =>
    obtain ⟨d, hg, hp⟩ := commitAt_some_get H w id c hc'
    rw [commitAt_of_get H w' id d (get_mono H w w' h id _ hg), hp]; rfl

theorem commitAt_empty (H : HashFn) (id : Bytes) : commitAt H {} id = none := by
  cases h : commitAt H {} id with
  | none => rfl
  | some c =>
    obtain ⟨d, hg, _⟩ := commitAt_some_get H {} id c h
    exact absurd hg (get_ne_ok_of_none H {} id _ rfl)

theorem treeEntries_of_objs (H : HashFn) (w w' : World) (h : w'.objs = w.objs) (t : Bytes) : treeEntries H w' t = treeEntries H w t := by
  unfold treeEntries store; rw [h]

theorem treeEntries_eq_some_iff (H : HashFn) (w : World) (t : Bytes) (es : List Entry) :
    treeEntries H w t = some es ↔
      ∃ k d ns, Store.get H (store w) t = .ok (k, d) ∧ newTree H (store w) treeDepth k d = some ns ∧ flattenTree ns = es := by
  unfold treeEntries
  split
  · rename_i k d hg
    rw [Option.map_eq_some_iff]
    exact ⟨fun ⟨ns, h1, h2⟩ => ⟨k, d, ns, hg, h1, h2⟩, fun ⟨_, _, ns, hg', h1, h2⟩ => by rw [hg] at hg'; cases hg'; exact ⟨ns, h1, h2⟩⟩
  · rename_i hne
    exact ⟨nofun, fun ⟨k, d, _, hg, _⟩ => absurd hg (hne k d)⟩

theorem treeEntries_mono (H : HashFn) (w w' : World) (ho : OL w.objs w'.objs) (t : Bytes) (es : List Entry)
    (h : treeEntries H w t = some es) : treeEntries H w' t = some es := by
  obtain ⟨k, d, ns, hg, hn, rfl⟩ := (treeEntries_eq_some_iff ..).1 h
  refine (treeEntries_eq_some_iff ..).2 ⟨k, d, ns, get_mono H w w' ho t _ hg, ?_, rfl⟩
  unfold newTree at hn ⊢
  split at hn
  · next hk => rw [if_pos hk]; exact walk_mono H (store w) (store w') (get_mono H w w' ho) treeDepth treeDepth d ns (Nat.le_refl _) hn
  · cases hn

/-- what `Index.Reset` reads for an id -/
theorem resetEntries_ok_iff (H : HashFn) (w : World) (id : Bytes) (es : List Entry) :
    Cmds.resetEntries H (store w) treeDepth id = .ok es ↔
      ∃ c t, commitAt H w id = some c ∧ c.tree = some t ∧ treeEntries H w t = some es := by
  constructor
  · fun_cases Cmds.resetEntries H (store w) treeDepth id with
    | case9 k d hg hk c hp t ht tk td hg2 ns hn =>
      -- the one answer `ok`: a commit whose tree reads
      rintro ⟨⟩
      cases Classical.not_not.1 hk
      exact ⟨c, t, (commitAt_of_get H w id d hg).trans hp, ht, (treeEntries_eq_some_iff ..).2 ⟨tk, td, ns, hg2, hn, rfl⟩⟩
    | _ => nofun
  · rintro ⟨c, t, hc, ht, hte⟩
    obtain ⟨d, hg, hp⟩ := commitAt_some_get H w id c hc
    obtain ⟨k, d2, ns, hg2, hn, rfl⟩ := (treeEntries_eq_some_iff ..).1 hte
    simp [Cmds.resetEntries, hg, hp, ht, hg2, hn]

/-- what the commands that compare with HEAD read -/
theorem headSnap_ok_iff (H : HashFn) (w : World) (l : Loaded) (es : List Entry) :
    headSnap H w l = .ok es ↔ ∃ id c t, l.headCommit = some (id, c) ∧ c.tree = some t ∧ treeEntries H w t = some es := by
  unfold headSnap
  cases l.headCommit with
  | none => exact ⟨nofun, fun ⟨_, _, _, h, _⟩ => nomatch h⟩
  | some ic =>
    obtain ⟨id, c⟩ := ic
    constructor
    · intro h
      dsimp only at h
      split at h
      · cases h
      rename_i t ht
      cases hte : treeEntries H w t with
      | none => rw [hte] at h; cases h
      | some es' => rw [hte] at h; cases h; exact ⟨id, c, t, rfl, ht, hte⟩
    · rintro ⟨_, _, t, h, ht, hte⟩
      cases h
      simp only [ht, hte, Res.ofOption]

theorem aget_putObj_self (w : World) (id c : Bytes) (h : ∀ c0, aget w.objs id = some c0 → c0 = c) :
    aget (putObj w id c).objs id = some c := by
  rw [aget_putObj, if_pos rfl]
  cases hc : aget w.objs id with
  | none => rfl
  | some c0 => rw [h c0 hc]; rfl

/-- the objects `os` fit into `w`: whatever is already stored under one of their ids is that object, and two of them
    with one id are one object -/
def Fit (w : World) (os : List (Bytes × Bytes)) : Prop :=
  (∀ p ∈ os, ∀ c0, aget w.objs p.1 = some c0 → c0 = p.2) ∧ (∀ p ∈ os, ∀ q ∈ os, p.1 = q.1 → p.2 = q.2)

theorem putObjs_holds (w : World) (os : List (Bytes × Bytes)) (hf : Fit w os) : ∀ p ∈ os, aget (putObjs w os).objs p.1 = some p.2 := by
  induction os generalizing w with
  | nil => intro p hp; cases hp
  | cons o os ih =>
    intro p hp
    have hstep : putObjs w (o :: os) = putObjs (putObj w o.1 o.2) os := rfl
    rw [hstep]
    have hself := aget_putObj_self w o.1 o.2 (hf.1 o List.mem_cons_self)
    have hfit' : Fit (putObj w o.1 o.2) os := by
      refine ⟨?_, fun p hp q hq => hf.2 p (List.mem_cons_of_mem _ hp) q (List.mem_cons_of_mem _ hq)⟩
      intro q hq c0 hc0
      by_cases he : q.1 = o.1
      · rw [he, hself] at hc0
        injection hc0 with hc0
        rw [← hc0]
        exact (hf.2 q (List.mem_cons_of_mem _ hq) o List.mem_cons_self he).symm
      · rw [aget_putObj, if_neg he] at hc0
        exact hf.1 q (List.mem_cons_of_mem _ hq) c0 hc0
    rcases List.mem_cons.mp hp with rfl | hp'
    · exact putObjs_le _ os _ _ hself
    · exact ih _ hfit' p hp'

theorem commitAt_putObj_cases (H : HashFn) (w : World) (k : Kind) (d : Bytes) (hk : k ≠ .undefined) (hd : d.length ≤ Fmt.int64Max)
    (i : Bytes) (c : Commit) (hc : commitAt H (putObj w (Obj.id H k d) (Obj.encode k d)) i = some c) :
    commitAt H w i = some c ∨ (k = .commit ∧ Commit.parse d = some c) := by
  cases hex : aget w.objs i with
  | some x => exact .inl (by rwa [commitAt_of_aget H w _ i (by rw [hex]; exact putObj_le w _ _ i x hex)] at hc)
  | none =>
    obtain ⟨d', hget, hp⟩ := commitAt_some_get H _ i c hc
    by_cases hid : i = Obj.id H k d
    · subst hid
      obtain ⟨_, h1, _, h3⟩ := (get_iff ..).mp hget
      rw [aget_putObj, if_pos rfl, hex, Option.getD_none] at h1
      cases h1
      rw [C01.decode_encode k d hk hd] at h3
      cases h3
      exact .inr ⟨rfl, hp⟩
    · exact absurd hget (get_ne_ok_of_none H _ i _ (by rw [aget_putObj, if_neg hid]; exact hex))

theorem commitAt_putObjs_noncommit (H : HashFn) (w : World) (os : List (Bytes × Bytes))
    (ht : ∀ p ∈ os, ∃ k d, k ≠ .commit ∧ k ≠ .undefined ∧ d.length ≤ Fmt.int64Max ∧ p = (Obj.id H k d, Obj.encode k d))
    (i : Bytes) (c : Commit) (hc : commitAt H (putObjs w os) i = some c) : commitAt H w i = some c := by
  unfold putObjs at hc
  induction os generalizing w with
  | nil => exact hc
  | cons o os ih =>
    obtain ⟨k, d, hk, hk', hd, rfl⟩ := ht o List.mem_cons_self
    exact (commitAt_putObj_cases H w k d hk' hd i c (ih _ (fun p hp => ht p (List.mem_cons_of_mem _ hp)) hc)).resolve_right
      (fun h => hk h.1)

end W
