import GoitModel.Tree

/-! The tree reader is monotone: with more objects in the store, or more nesting fuel, a tree that read back
    before reads back the same. -/

namespace TreeCodec

theorem loop_mono (sub sub' : Bytes → Option (List Node)) (h : ∀ id ns, sub id = some ns → sub' id = some ns)
    (fuel : Nat) (isDir : Bool) (name buf : Bytes) (ns : List Node)
    (hl : loop sub fuel isDir name buf = some ns) : loop sub' fuel isDir name buf = some ns := by
  -- the two runs differ only in the answer to `sub`, which `h` carries over, and in the recursive call
  have hk : ∀ (isDir : Bool) i kids, (if isDir = true then sub i else some []) = some kids →
      (if isDir = true then sub' i else some []) = some kids := fun isDir i kids => by
    cases isDir
    · exact fun x => x
    · exact h _ _
  revert hl
  -- the two leaves that answer: the last entry of the tree, and an entry followed by more
  fun_induction loop sub fuel isDir name buf generalizing ns with
  | case4 fuel isDir name buf hlen i rest r kids? kids hkids here he =>
    rintro ⟨⟩
    rw [loop, if_neg hlen]
    dsimp only
    rw [hk isDir (buf.take 20) kids hkids]
    exact if_pos he
  | case6 fuel isDir name buf hlen i rest r kids? kids hkids here he m n hcut nodes hr ih =>
    rintro ⟨⟩
    rw [loop, if_neg hlen]
    dsimp only
    rw [hk isDir (buf.take 20) kids hkids]
    dsimp only
    rw [if_neg he, hcut]
    dsimp only
    rw [ih nodes hr]
  | _ => nofun

/-- more objects (the readable ones unchanged) and at least as much nesting fuel: a tree that read back reads back the same -/
theorem walk_mono (H : HashFn) (st st' : Store)
    (hst : ∀ id kd, Store.get H st id = .ok kd → Store.get H st' id = .ok kd) :
    ∀ (d d' : Nat) (data : Bytes) (ns : List Node), d ≤ d' → walk H st d data = some ns → walk H st' d' data = some ns := by
  intro d
  induction d with
  | zero => intro d' data ns _ hw; simp [walk] at hw
  | succ d ih =>
    intro d' data ns hle hw
    cases d' with
    | zero => omega
    | succ e =>
      have hde : d ≤ e := by omega
      unfold walk at hw ⊢
      split at hw
      · rename_i hd; rw [if_pos hd]; exact hw
      rename_i hd
      rw [if_neg hd]
      dsimp only at hw ⊢
      split at hw
      · cases hw
      refine loop_mono _ _ (fun id ns' hs => ?_) _ _ _ _ _ hw
      -- a sub-tree that `st` resolved is resolved by `st'`, and read with the larger fuel
      split at hs
      · rename_i sdata hg
        simp only [hst id _ hg]
        exact ih e sdata ns' hde hs
      · cases hs

end TreeCodec
