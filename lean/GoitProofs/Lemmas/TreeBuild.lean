import GoitModel.Tree
import GoitProofs.Lemmas.Bytes

/-! The recursion of `writeTreeObject` at the structure level, and its inverse `getEntriesFromTree`. -/

namespace TreeBuild

/-- every `/`-separated component of the path is non-empty (no leading, trailing or double slash) -/
def PathOK : Bytes → Prop := fun p => ∀ c ∈ Bytes.split1 47 p, c ≠ []

def AllOK (es : List Entry) : Prop := ∀ e ∈ es, PathOK e.path

theorem pathOK_ne_nil (p : Bytes) (h : PathOK p) : p ≠ [] :=
  fun e => h [] (by rw [e]; exact List.mem_cons_self) rfl

theorem pathOK_append (d r : Bytes) (h47 : (47 : UInt8) ∉ d) : PathOK (d ++ 47 :: r) ↔ d ≠ [] ∧ PathOK r := by
  simp only [PathOK, Bytes.split1_append 47 d r h47, List.forall_mem_cons]

theorem AllOK.tail {e : Entry} {es : List Entry} (h : AllOK (e :: es)) : AllOK es :=
  fun x hx => h x (List.mem_cons_of_mem _ hx)

/-- the entries an item stands for -/
def Item.entries : Item → List Entry
  | .leaf n i => [⟨i, n⟩]
  | .dir d sub => sub.map fun e => ⟨e.id, d ++ 47 :: e.path⟩

def pre (d : Bytes) (buf : List Entry) : List Entry := buf.map fun e => ⟨e.id, d ++ 47 :: e.path⟩

theorem cut_ok {p m n : Bytes} (h : PathOK p) (hc : Bytes.cut1 47 p = (m, some n)) : m ≠ [] ∧ p = m ++ 47 :: n := by
  obtain ⟨rfl, h47⟩ := (Bytes.cut1_eq_some_iff 47 p m n).1 hc
  exact ⟨((pathOK_append m n h47).1 h).1, rfl⟩

/-- the single pass loses nothing and keeps the order: the items, expanded, are the pending
    directory's entries followed by the remaining input -/
theorem group_flat (dn : Bytes) (buf es : List Entry) (hok : AllOK es) (hbuf : dn = [] → buf = []) :
    ((group dn buf es).map Item.entries).flatten = (if dn ≠ [] then pre dn buf else []) ++ es := by
  -- the cases of `group`: 1/2 end of input with/without an open directory, 3/4 a file with/without one,
  -- 5 a directory entry with none open, 6 one of the open directory, 7 one of another directory
  fun_induction group dn buf es with
  | case1 dn buf h => simp [h, Item.entries, pre]
  | case2 dn buf h => simp [h]
  | case3 dn buf e es x hc h ih =>
    simp [h, ih hok.tail (fun _ => rfl), Item.entries, pre]
  | case4 dn buf e es x hc h ih =>
    simp [h, ih hok.tail hbuf, Item.entries]
  | case5 buf e es m n hc ih =>
    obtain ⟨hm, he⟩ := cut_ok (hok e List.mem_cons_self) hc
    rw [ih hok.tail (fun h => absurd h hm), hbuf rfl]
    simp [hm, pre, ← he]
  | case6 buf e es m n hc h ih =>
    obtain ⟨hm, he⟩ := cut_ok (hok e List.mem_cons_self) hc
    rw [ih hok.tail (fun h => absurd h hm)]
    simp [hm, pre, ← he]
  | case7 dn buf e es m n hc h h' ih =>
    obtain ⟨hm, he⟩ := cut_ok (hok e List.mem_cons_self) hc
    simp only [List.map_cons, List.flatten_cons]
    rw [ih hok.tail (fun h => absurd h hm)]
    simp [hm, h, pre, Item.entries, ← he]

/-- total length of the paths: the measure that decreases into sub-trees -/
def size (es : List Entry) : Nat := (es.map (fun e => e.path.length)).sum

theorem fuelFor_eq (es : List Entry) : fuelFor es = size es + 1 := rfl
theorem size_lt_fuelFor (es : List Entry) : size es < fuelFor es := Nat.lt_succ_self _

@[simp] theorem size_nil : size [] = 0 := rfl
@[simp] theorem size_cons (e : Entry) (es : List Entry) : size (e :: es) = e.path.length + size es := by
  simp [size]

/-- what the single pass guarantees of every item it emits, whatever the input -/
def ItemWF : Item → Prop
  | .leaf n _ => (47 : UInt8) ∉ n
  | .dir d sub => d ≠ [] ∧ (47 : UInt8) ∉ d ∧ sub ≠ []

theorem group_wf (dn : Bytes) (buf es : List Entry) (hdn : dn ≠ [] → (47 : UInt8) ∉ dn ∧ buf ≠ []) :
    ∀ it ∈ group dn buf es, ItemWF it := by
  fun_induction group dn buf es with
  | case1 dn buf h => exact List.forall_mem_singleton.2 ⟨h, hdn h⟩
  | case2 => exact fun _ hit => nomatch hit
  | case3 dn buf e es x hc h ih =>
    exact List.forall_mem_cons.2 ⟨⟨h, hdn h⟩, List.forall_mem_cons.2
      ⟨((Bytes.cut1_eq_none_iff _ _ _).1 hc).2, ih fun h => absurd rfl h⟩⟩
  | case4 dn buf e es x hc h ih => exact List.forall_mem_cons.2 ⟨((Bytes.cut1_eq_none_iff _ _ _).1 hc).2, ih hdn⟩
  | case5 buf e es m n hc ih => exact ih fun _ => ⟨((Bytes.cut1_eq_some_iff _ _ _ _).1 hc).2, by simp⟩
  | case6 buf e es m n hc h ih => exact ih fun _ => ⟨((Bytes.cut1_eq_some_iff _ _ _ _).1 hc).2, by simp⟩
  | case7 dn buf e es m n hc h h' ih =>
    exact List.forall_mem_cons.2 ⟨⟨h, hdn h⟩, ih fun _ => ⟨((Bytes.cut1_eq_some_iff _ _ _ _).1 hc).2, by simp⟩⟩

theorem group_flat_nil (es : List Entry) (hok : AllOK es) : ((group [] [] es).map Item.entries).flatten = es :=
  group_flat [] [] es hok fun _ => rfl

theorem entries_sublist (es : List Entry) (hok : AllOK es) (it : Item) (hit : it ∈ group [] [] es) :
    (Item.entries it).Sublist es :=
  group_flat_nil es hok ▸ List.sublist_flatten_of_mem (List.mem_map_of_mem hit)

theorem mem_group_iff (es : List Entry) (hok : AllOK es) (e : Entry) :
    e ∈ es ↔ ∃ it ∈ group [] [] es, e ∈ Item.entries it := by
  conv => lhs; rw [← group_flat_nil es hok, ← List.flatMap_def]
  exact List.mem_flatMap

theorem size_sublist {a b : List Entry} (h : a.Sublist b) : size a ≤ size b := by
  induction h with
  | slnil => exact Nat.le_refl _
  | cons e _ ih => rw [size_cons]; exact Nat.le_add_left_of_le ih
  | cons_cons e _ ih => rw [size_cons, size_cons]; exact Nat.add_le_add_left ih _

theorem size_pre (d : Bytes) (sub : List Entry) : size sub + sub.length ≤ size (pre d sub) := by
  induction sub with
  | nil => exact Nat.le_refl _
  | cons e sub ih => simp only [pre, List.map_cons, size_cons, List.length_cons, List.length_append] at ih ⊢; omega

theorem group_dir (es : List Entry) (hok : AllOK es) (d : Bytes) (sub : List Entry) (hit : Item.dir d sub ∈ group [] [] es) :
    sub ≠ [] ∧ AllOK sub ∧ d ≠ [] ∧ size sub < size es := by
  obtain ⟨hd, h47, hsub⟩ := group_wf [] [] es (fun h => absurd rfl h) _ hit
  have hsl := entries_sublist es hok _ hit
  refine ⟨hsub, fun x hx => ?_, hd, Nat.lt_of_lt_of_le (Nat.lt_add_of_pos_right (List.length_pos_iff.2 hsub))
    (Nat.le_trans (size_pre d sub) (size_sublist hsl))⟩
  exact ((pathOK_append d x.path h47).1 (hok _ (hsl.subset (List.mem_map.2 ⟨x, hx, rfl⟩)))).2

/-- how `getEntriesFromTree(rootName, …)` prefixes a name -/
def addRoot (root : Bytes) (e : Entry) : Entry :=
  ⟨e.id, if root = [] then e.path else root ++ 47 :: e.path⟩

theorem addRoot_nil (es : List Entry) : es.map (addRoot []) = es := List.map_id'' (fun _ => rfl) es

def toNode (H : HashFn) (f : Nat) : Item → Node
  | .leaf n i => Node.mk n i []
  | .dir d sub => Node.mk d (write H f sub).id (build H f sub)

theorem build_succ (H : HashFn) (f : Nat) (es : List Entry) :
    build H (f + 1) es = (group [] [] es).map (toNode H f) := by
  simp only [build]
  congr 1

theorem flattenList_items (H : HashFn) (f : Nat) (root : Bytes) (items : List Item)
    (hrec : ∀ d sub, Item.dir d sub ∈ items → d ≠ [] ∧ build H f sub ≠ [] ∧
        ∀ r, Node.flattenList r (build H f sub) = sub.map (addRoot r)) :
    Node.flattenList root (items.map (toNode H f)) = ((items.map Item.entries).flatten).map (addRoot root) := by
  induction items with
  | nil => rfl
  | cons it rest ih =>
    rw [List.map_cons, Node.flattenList, ih fun d sub hm => hrec d sub (List.mem_cons_of_mem _ hm),
      List.map_cons, List.flatten_cons, List.map_append]
    congr 1
    cases it with
    | leaf n i => by_cases hr : root = [] <;> simp [toNode, Node.flatten, Item.entries, addRoot, hr]
    | dir d sub =>
      obtain ⟨hd, hne, hfl⟩ := hrec d sub List.mem_cons_self
      simp only [toNode, Node.flatten, List.isEmpty_eq_false_iff.2 hne, Bool.false_eq_true, if_false, hfl,
        Item.entries, List.map_map]
      apply List.map_congr_left
      intro e _
      by_cases hr : root = [] <;> simp [addRoot, hr, hd]

/-- **`getEntriesFromTree ∘ writeTreeObject = id`** at the structure level, for every entry list with
    valid paths — sorted or not — given the fuel `writeTree` uses. -/
theorem flatten_build (H : HashFn) (f : Nat) (es : List Entry) (hok : AllOK es) (hf : size es < f) :
    (es ≠ [] → build H f es ≠ []) ∧ ∀ root, Node.flattenList root (build H f es) = es.map (addRoot root) := by
  induction f generalizing es with
  | zero => omega
  | succ f ih =>
    have hrec : ∀ d sub, Item.dir d sub ∈ group [] [] es → d ≠ [] ∧ build H f sub ≠ [] ∧
        ∀ r, Node.flattenList r (build H f sub) = sub.map (addRoot r) := by
      intro d sub hm
      obtain ⟨hsne, hsok, hd, hsz⟩ := group_dir es hok d sub hm
      obtain ⟨h1, h2⟩ := ih sub hsok (by omega)
      exact ⟨hd, h1 hsne, h2⟩
    have key (root : Bytes) : Node.flattenList root (build H (f + 1) es) = es.map (addRoot root) := by
      rw [build_succ, flattenList_items H f root _ hrec, group_flat_nil es hok]
    -- an empty tree would flatten to nothing
    exact ⟨fun hne hb => hne (List.map_eq_nil_iff.1 ((key []).symm.trans (by rw [hb, Node.flattenList]))), key⟩

end TreeBuild
