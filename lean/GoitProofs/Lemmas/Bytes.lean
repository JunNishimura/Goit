import GoitModel.Fmt

/-! What several property files need of the byte-string functions of `GoitModel/Bytes.lean` and `Fmt.lean`. -/

-- found once here: the search for them otherwise walks the order classes of `UInt8` (some 120k heartbeats) at every
-- `beq_iff_eq` or `beq_self_eq_true`
instance : LawfulBEq Bytes := inferInstance
instance : ReflBEq Bytes := inferInstance

theorem List.takeWhile_eq_self {α : Type} (p : α → Bool) (l : List α) (h : ∀ a ∈ l, p a = true) : l.takeWhile p = l := by
  induction l with
  | nil => rfl
  | cons a as ih => rw [List.takeWhile_cons, h a List.mem_cons_self, ih fun x hx => h x (List.mem_cons_of_mem _ hx), if_pos rfl]

namespace Bytes

theorem cut1_append (b : UInt8) (s r : Bytes) (h : b ∉ s) : cut1 b (s ++ b :: r) = (s, some r) := by
  induction s with
  | nil => simp [cut1]
  | cons a as ih => simp [cut1, (List.ne_of_not_mem_cons h).symm, ih (List.not_mem_of_not_mem_cons h)]

theorem cut1_none (b : UInt8) (s : Bytes) (h : b ∉ s) : cut1 b s = (s, none) := by
  induction s with
  | nil => rfl
  | cons a as ih => simp [cut1, (List.ne_of_not_mem_cons h).symm, ih (List.not_mem_of_not_mem_cons h)]

-- `s` has a first `b` or none, and the two lemmas above say what `cut1` answers in either case
theorem cut1_eq_some_iff (b : UInt8) (s m r : Bytes) : cut1 b s = (m, some r) ↔ s = m ++ b :: r ∧ b ∉ m := by
  refine ⟨fun h => ?_, fun ⟨e, hm⟩ => e ▸ cut1_append b m r hm⟩
  by_cases hb : b ∈ s
  · obtain ⟨p, q, rfl, hp⟩ := List.eq_append_cons_of_mem hb
    cases (cut1_append b p q hp).symm.trans h
    exact ⟨rfl, hp⟩
  · cases (cut1_none b s hb).symm.trans h

theorem cut1_eq_none_iff (b : UInt8) (s x : Bytes) : cut1 b s = (x, none) ↔ x = s ∧ b ∉ s := by
  refine ⟨fun h => ?_, fun ⟨e, hs⟩ => e ▸ cut1_none b s hs⟩
  by_cases hb : b ∈ s
  · obtain ⟨p, q, rfl, hp⟩ := List.eq_append_cons_of_mem hb
    cases (cut1_append b p q hp).symm.trans h
  · cases (cut1_none b s hb).symm.trans h
    exact ⟨rfl, hb⟩

theorem cut1_fst_not_mem (b : UInt8) (s : Bytes) : b ∉ (cut1 b s).1 := by
  by_cases hb : b ∈ s
  · obtain ⟨p, q, rfl, hp⟩ := List.eq_append_cons_of_mem hb
    rwa [cut1_append b p q hp]
  · rwa [cut1_none b s hb]

theorem cut1_some_eq (b : UInt8) (s : Bytes) (r : Bytes) (h : (cut1 b s).2 = some r) :
    s = (cut1 b s).1 ++ b :: r :=
  ((cut1_eq_some_iff b s _ r).1 (Prod.ext rfl h)).1

theorem cut1_none_eq (b : UInt8) (s : Bytes) (h : (cut1 b s).2 = none) : (cut1 b s).1 = s :=
  ((cut1_eq_none_iff b s _).1 (Prod.ext rfl h)).1

theorem split1_eq_cut1 (b : UInt8) (s : Bytes) :
    split1 b s = match cut1 b s with
      | (x, none) => [x]
      | (x, some r) => x :: split1 b r := by
  induction s with
  | nil => rfl
  | cons a as ih =>
    by_cases hab : a = b
    · simp [split1, cut1, hab]
    · rw [split1, cut1, if_neg hab, if_neg hab, ih]
      rcases cut1 b as with ⟨x, _ | r⟩ <;> rfl

theorem split1_ne_nil (b : UInt8) (s : Bytes) : split1 b s ≠ [] := by
  rw [split1_eq_cut1]; split <;> simp

theorem split1_append (b : UInt8) (l rest : Bytes) (h : b ∉ l) : split1 b (l ++ b :: rest) = l :: split1 b rest := by
  rw [split1_eq_cut1, cut1_append b l rest h]

theorem join_split1 (b : UInt8) (s : Bytes) : join [b] (split1 b s) = s := by
  induction s with
  | nil => rfl
  | cons a as ih =>
    cases hs : split1 b as with
    | nil => exact absurd hs (split1_ne_nil b as)
    | cons f fs =>
      rw [hs] at ih
      by_cases hab : a = b
      · simp [split1, hab, hs, join, ih]
      · cases fs <;> simp_all [split1, join]

theorem mem_split1 (b : UInt8) (s : Bytes) (c : UInt8) (hc : c ∈ s) : c = b ∨ ∃ p ∈ split1 b s, c ∈ p := by
  rw [← join_split1 b s] at hc
  generalize split1 b s = l at hc
  induction l with
  | nil => cases hc
  | cons f fs ih =>
    cases fs with
    | nil => exact Or.inr ⟨f, List.mem_cons_self, hc⟩
    | cons g gs =>
      simp only [join, List.mem_append, List.mem_singleton] at hc
      rcases hc with (h | h) | h
      · exact Or.inr ⟨f, List.mem_cons_self, h⟩
      · exact Or.inl h
      · exact (ih h).imp_right fun ⟨p, hp, hcp⟩ => ⟨p, List.mem_cons_of_mem _ hp, hcp⟩

theorem subset_of_mem_split1 (b : UInt8) (s p : Bytes) (hp : p ∈ split1 b s) : p ⊆ s := by
  induction s generalizing p with
  | nil => simp [List.mem_singleton.1 hp]
  | cons a as ih =>
    rw [split1] at hp
    split at hp
    · exact (List.mem_cons.1 hp).elim (· ▸ List.nil_subset _) fun h => List.subset_cons_of_subset a (ih p h)
    · split at hp
      · simp [List.mem_singleton.1 hp]
      · next f fs hsp =>
        rw [hsp] at ih
        exact (List.mem_cons.1 hp).elim (· ▸ List.cons_subset_cons a (ih f List.mem_cons_self))
          fun h => List.subset_cons_of_subset a (ih p (List.mem_cons_of_mem _ h))

theorem hasPrefix_iff (s p : Bytes) : hasPrefix s p = true ↔ p <+: s := by
  induction p generalizing s with
  | nil => cases s <;> simp [hasPrefix]
  | cons b bs ih =>
    cases s with
    | nil => simp [hasPrefix]
    | cons a as =>
      simp only [hasPrefix, Bool.and_eq_true, beq_iff_eq, ih, List.cons_prefix_cons]
      exact ⟨fun ⟨h1, h2⟩ => ⟨h1.symm, h2⟩, fun ⟨h1, h2⟩ => ⟨h1.symm, h2⟩⟩

theorem hasPrefix_append_self (p m : Bytes) : hasPrefix (p ++ m) p = true :=
  (hasPrefix_iff _ _).2 (List.prefix_append p m)

theorem hasPrefix_append_right (p q r : Bytes) (h : hasPrefix p q = true) : hasPrefix (p ++ r) q = true :=
  (hasPrefix_iff _ _).2 (((hasPrefix_iff _ _).1 h).trans (List.prefix_append p r))

theorem trimLeft_append (a b : Bytes) (ha : a.all isAsciiSpace = true)
    (hb : ∀ x, b.head? = some x → isAsciiSpace x = false) : trimLeft (a ++ b) = b := by
  induction a with
  | nil => cases b with
    | nil => rfl
    | cons x b => simp [trimLeft, hb x rfl]
  | cons x a ih =>
    rw [List.all_cons, Bool.and_eq_true] at ha
    simp [trimLeft, ha.1, ih ha.2]

theorem mem_trimLeft (s : Bytes) (x : UInt8) (hx : x ∈ s) (hns : isAsciiSpace x = false) : x ∈ trimLeft s := by
  induction s with
  | nil => cases hx
  | cons _ as ih =>
    rw [trimLeft]
    split
    · next hsp => exact ih ((List.mem_cons.1 hx).resolve_left fun e => by rw [e, hsp] at hns; cases hns)
    · exact hx

theorem mem_trimSpace (s : Bytes) (x : UInt8) (hx : x ∈ s) (hns : isAsciiSpace x = false) : x ∈ trimSpace s :=
  List.mem_reverse.2 (mem_trimLeft _ x (List.mem_reverse.2 (mem_trimLeft s x hx hns)) hns)

theorem removeByte_none (b : UInt8) (s : Bytes) (h : b ∉ s) : removeByte b s = s :=
  List.filter_eq_self.2 fun _ ha => bne_iff_ne.2 fun e => h (e ▸ ha)

theorem cut1_append_of_some (b : UInt8) (s m r t : Bytes) (h : cut1 b s = (m, some r)) :
    cut1 b (s ++ t) = (m, some (r ++ t)) := by
  obtain ⟨rfl, hm⟩ := (cut1_eq_some_iff b s m r).1 h
  rw [List.append_assoc, List.cons_append, cut1_append b m _ hm]

theorem indexOf_append (p0 : UInt8) (ps k m : Bytes) (h : p0 ∉ k) :
    indexOf (p0 :: ps) (k ++ ((p0 :: ps) ++ m)) = some k.length := by
  induction k with
  | nil => rw [List.nil_append, List.cons_append, indexOf, ← List.cons_append, hasPrefix_append_self]; rfl
  | cons a as ih =>
    rw [List.cons_append, indexOf, hasPrefix, beq_false_of_ne (List.ne_of_not_mem_cons h).symm,
      ih (List.not_mem_of_not_mem_cons h)]
    rfl

theorem cutSeq_append (p0 : UInt8) (ps k m : Bytes) (h : p0 ∉ k) :
    cutSeq (p0 :: ps) (k ++ ((p0 :: ps) ++ m)) = (k, some m) := by
  rw [cutSeq, indexOf_append p0 ps k m h]
  dsimp only
  rw [List.take_left' rfl, ← List.append_assoc, List.drop_left' List.length_append]

end Bytes

namespace Dec

theorem isDigit_iff (c : UInt8) : isDigit c = true ↔ 48 ≤ c ∧ c ≤ 57 := by
  simp [isDigit]

theorem digitByte_isDigit (n : Nat) (h : n < 10) : isDigit (48 + n.toUInt8) = true := by
  have : ∀ m : Fin 10, isDigit (48 + (m.val).toUInt8) = true := by decide
  exact this ⟨n, h⟩

theorem digitByte_val (n : Nat) (h : n < 10) : (48 + n.toUInt8).toNat - 48 = n := by
  have : ∀ m : Fin 10, (48 + (m.val).toUInt8).toNat - 48 = m.val := by decide
  exact this ⟨n, h⟩

theorem ofNat_ne_nil (n : Nat) : ofNat n ≠ [] := by
  rw [ofNat]; split <;> simp

theorem ofNat_all_digits (n : Nat) : ∀ c ∈ ofNat n, isDigit c = true := by
  fun_induction ofNat n with
  | case1 n h => exact List.forall_mem_singleton.2 (digitByte_isDigit n h)
  | case2 n h ih =>
    exact List.forall_mem_append.2 ⟨ih, List.forall_mem_singleton.2 (digitByte_isDigit (n % 10) (by omega))⟩

theorem value_append_digit (s : Bytes) (d : UInt8) : value (s ++ [d]) = value s * 10 + (d.toNat - 48) := by
  simp [value, List.foldl_append]

theorem value_ofNat (n : Nat) : value (ofNat n) = n := by
  fun_induction ofNat n with
  | case1 n h =>
    have := digitByte_val n h
    simp only [value, List.foldl_cons, List.foldl_nil]; omega
  | case2 n h ih =>
    rw [value_append_digit, ih, digitByte_val (n % 10) (by omega)]
    omega

theorem ne_of_not_digit {b c : UInt8} (hb : isDigit b = false) (hc : isDigit c = true) : b ≠ c :=
  fun e => by rw [e, hc] at hb; cases hb

theorem ofNat_not_mem (n : Nat) (b : UInt8) (hb : isDigit b = false) : b ∉ ofNat n :=
  fun hm => ne_of_not_digit hb (ofNat_all_digits n b hm) rfl

theorem not_sign (c : UInt8) (h : isDigit c = true) : c ≠ 45 ∧ c ≠ 43 :=
  ⟨(ne_of_not_digit rfl h).symm, (ne_of_not_digit rfl h).symm⟩

theorem ofInt_not_mem (i : Int) (b : UInt8) (hb : isDigit b = false) (hm : b ≠ 45) : b ∉ ofInt i := by
  unfold ofInt
  split
  · exact List.not_mem_cons_of_ne_of_not_mem hm (ofNat_not_mem _ b hb)
  · exact ofNat_not_mem _ b hb

theorem pad2_not_mem (i : Int) (b : UInt8) (hb : isDigit b = false) (hm : b ≠ 45) : b ∉ pad2 i := by
  unfold pad2
  dsimp only
  split
  · exact List.not_mem_cons_of_ne_of_not_mem (ne_of_not_digit hb rfl) (ofInt_not_mem i b hb hm)
  · exact ofInt_not_mem i b hb hm

theorem plus03_not_mem (i : Int) (b : UInt8) (hb : isDigit b = false) (hm : b ≠ 45) (hp : b ≠ 43) : b ∉ plus03 i := by
  unfold plus03
  simp only [List.mem_cons, List.mem_append, List.mem_replicate, not_or]
  exact ⟨by split <;> assumption, fun h => ne_of_not_digit hb rfl h.2, ofNat_not_mem _ b hb⟩

end Dec

namespace Fmt

theorem parseInt_digits (ds : Bytes) (hne : ds ≠ []) (h : ds.all Dec.isDigit = true) :
    parseInt ds = if Dec.value ds ≤ int64Max then some (Dec.value ds : Int) else none := by
  cases ds with
  | nil => exact absurd rfl hne
  | cons c cs =>
    obtain ⟨h45, h43⟩ := Dec.not_sign c (by simp only [List.all_cons, Bool.and_eq_true] at h; exact h.1)
    simp [parseInt, h45, h43, h]

theorem sscanfD_ofNat (n : Nat) (h : n ≤ int64Max) : sscanfD (Dec.ofNat n) = some (n : Int) := by
  have hall := Dec.ofNat_all_digits n
  have hv := Dec.value_ofNat n
  obtain ⟨c, rest, hs⟩ := List.exists_cons_of_ne_nil (Dec.ofNat_ne_nil n)
  rw [hs] at hall hv ⊢
  have hc := hall c List.mem_cons_self
  have hc' := (Dec.isDigit_iff c).mp hc
  have hnb : isScanBlank c = false := by
    have : c ≠ 32 ∧ c ≠ 9 ∧ c ≠ 11 ∧ c ≠ 12 ∧ c ≠ 13 := by
      refine ⟨?_, ?_, ?_, ?_, ?_⟩ <;> (intro e; subst e; revert hc'; decide)
    simp [isScanBlank, this]
  obtain ⟨h45, h43⟩ := Dec.not_sign c hc
  simp only [sscanfD, skipBlanks, hnb]
  simp [h45, h43, List.takeWhile_eq_self _ _ hall, hv, h]

end Fmt
