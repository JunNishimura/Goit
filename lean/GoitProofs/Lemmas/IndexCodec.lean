import GoitModel.Index

namespace IndexFile

theorem ofNat_toNat (x : Nat) : (UInt8.ofNat x).toNat = x % 256 := by
  simp [UInt8.toNat_ofNat']

theorem rd16_be16 (n : Nat) (h : n < 65536) : rd16 (be16 n) = n := by
  simp only [be16, rd16, ofNat_toNat, Nat.mod_mod, Nat.mod_eq_of_lt (Nat.div_lt_of_lt_mul h : n / 256 < 256)]
  exact Nat.div_add_mod' n 256

theorem rd32_be32 (n : Nat) (h : n < 4294967296) : rd32 (be32 n) = n := by
  -- byte by byte (`omega` on the four divisions by powers of 256 costs twenty times as much): with a = n/256,
  -- b = a/256, c = b/256 < 256 the goal is n = a·256 + n%256, a = b·256 + a%256, b = c·256 + b%256 multiplied out
  have e2 : n / 65536 = n / 256 / 256 := (Nat.div_div_eq_div_mul n 256 256).symm
  have e3 : n / 16777216 = n / 256 / 256 / 256 := by rw [Nat.div_div_eq_div_mul, Nat.div_div_eq_div_mul]
  have hc : n / 256 / 256 / 256 % 256 = n / 256 / 256 / 256 :=
    Nat.mod_eq_of_lt (by rw [← e3]; exact Nat.div_lt_of_lt_mul h)
  simp only [be32, rd32, ofNat_toNat, Nat.mod_mod, e2, e3, hc]
  conv => rhs; rw [← Nat.div_add_mod' n 256, ← Nat.div_add_mod' (n / 256) 256, ← Nat.div_add_mod' (n / 256 / 256) 256]
  simp only [Nat.add_mul, Nat.mul_assoc, Nat.reduceMul]

theorem be16_length (n : Nat) : (be16 n).length = 2 := rfl
theorem be32_length (n : Nat) : (be32 n).length = 4 := rfl

/-- an entry the file format can carry -/
def EntryOK (e : Entry) : Prop := e.id.length = 20 ∧ e.path.length < 65536

theorem decodeEntries_encode (es : List Entry) (rest : Bytes) (h : ∀ e ∈ es, EntryOK e) :
    decodeEntries es.length ((es.map encodeEntry).flatten ++ rest) = some es := by
  induction es with
  | nil => simp [decodeEntries]
  | cons e es ih =>
    obtain ⟨hid, hp⟩ := h e (List.mem_cons_self)
    -- the buffer is id ++ len ++ path ++ tail; each fixed-width read takes its field off the front
    rw [List.length_cons, decodeEntries, List.map_cons, List.flatten_cons, encodeEntry, Nat.mod_eq_of_lt hp]
    simp only [List.append_assoc, List.take_left' hid, List.drop_left' hid, List.take_left' (be16_length _), List.drop_left' (be16_length _),
      rd16_be16 _ hp, List.take_left' rfl, List.drop_left' rfl, ih (fun x hx => h x (List.mem_cons_of_mem _ hx))]
    simp [hid, be16_length]

end IndexFile
