import GoitModel.Index
import GoitProofs.Lemmas.Bytes

/-! The hand-written binary search of `Index.GetEntry` / `Refs.getBranchPos`: correctness on strictly
    sorted keys, and the fact that it never indexes out of range; then what both callers need of such keys besides: a
    merge sort by `≤` on distinct keys yields them, and a scan by key finds the one element that has it. -/

def SortedKeys (keys : List Bytes) : Prop := keys.Pairwise (· < ·)

theorem lt_trans' {a b c : Bytes} : a < b → b < c → a < c := List.lt_trans

theorem bsearch_sound (keys : List Bytes) (x : Bytes) (left right i : Nat) (h : bsearch keys x left right = .found i) :
    keys[i]? = some x := by
  -- the cases of `bsearch`: the midpoint is out of range (`crash`), a hit, go right, go left, the interval is empty
  fun_induction bsearch keys x left right with
  | case1 => cases h
  | case2 l r hlt hk => cases h; exact hk
  | case3 l r hlt k hk hne hklt ih => exact ih h
  | case4 l r hlt k hk hne hklt ih => exact ih h
  | case5 => cases h

theorem bsearch_no_crash (keys : List Bytes) (x : Bytes) (left right : Nat) (hr : right ≤ keys.length) :
    bsearch keys x left right ≠ .crash := by
  fun_induction bsearch keys x left right with
  | case1 l r hlt hnone => rw [List.getElem?_eq_none_iff] at hnone; omega
  | case2 => simp
  | case3 l r hlt k hk hne hklt ih => exact ih hr
  | case4 l r hlt k hk hne hklt ih => exact ih (by have := (List.getElem?_eq_some_iff.1 hk).1; omega)
  | case5 => simp

theorem bsearch_complete (keys : List Bytes) (hs : SortedKeys keys) (x : Bytes) (left right i : Nat)
    (hi : keys[i]? = some x) (hl : left ≤ i) (hri : i < right) (hr : right ≤ keys.length) :
    bsearch keys x left right = .found i := by
  obtain ⟨hil, hix⟩ := List.getElem?_eq_some_iff.1 hi
  have key : ∀ j (hj : j < keys.length), (j < i → keys[j] < x) ∧ (i < j → x < keys[j]) := fun j hj =>
    ⟨fun h => hix ▸ List.pairwise_iff_getElem.1 hs j i hj hil h, fun h => hix ▸ List.pairwise_iff_getElem.1 hs i j hil hj h⟩
  fun_induction bsearch keys x left right with
  | case1 l r hlt hnone => rw [List.getElem?_eq_none_iff] at hnone; omega
  | case2 l r hlt hk =>
    obtain ⟨hm, hkm⟩ := List.getElem?_eq_some_iff.1 hk
    congr 1
    rcases Nat.lt_trichotomy ((l + r) / 2) i with h | h | h
    · exact absurd (hkm ▸ (key _ hm).1 h) (List.lt_irrefl _)
    · exact h
    · exact absurd (hkm ▸ (key _ hm).2 h) (List.lt_irrefl _)
  | case3 l r hlt k hk hne hklt ih =>
    obtain ⟨hm, hkm⟩ := List.getElem?_eq_some_iff.1 hk
    refine ih ?_ hri hr
    rcases Nat.lt_trichotomy ((l + r) / 2) i with h | h | h
    · omega
    · subst h; exact absurd (hkm.symm.trans hix) hne
    · exact absurd (hkm ▸ (key _ hm).2 h) (List.lt_asymm hklt)
  | case4 l r hlt k hk hne hnlt ih =>
    obtain ⟨hm, hkm⟩ := List.getElem?_eq_some_iff.1 hk
    refine ih hl ?_ (by omega)
    rcases Nat.lt_trichotomy ((l + r) / 2) i with h | h | h
    · exact absurd (hkm ▸ (key _ hm).1 h) hnlt
    · subst h; exact absurd (hkm.symm.trans hix) hne
    · exact h
  | case5 => omega

/-- Invariant-style spec: if x occurs at index i, then left ≤ i < right is maintained. -/
theorem bsearch_spec (keys : List Bytes) (hs : SortedKeys keys) (x : Bytes) (left right : Nat)
    (hr : right ≤ keys.length) :
    (∀ i, (h : i < keys.length) → keys[i] = x → left ≤ i → i < right → bsearch keys x left right = .found i) ∧
    (∀ i, bsearch keys x left right = .found i → ∃ h : i < keys.length, keys[i] = x) ∧
    bsearch keys x left right ≠ .crash :=
  ⟨fun i h hix hl hri => bsearch_complete keys hs x left right i (List.getElem?_eq_some_iff.2 ⟨h, hix⟩) hl hri hr,
   fun i hfi => List.getElem?_eq_some_iff.1 (bsearch_sound keys x left right i hfi),
   bsearch_no_crash keys x left right hr⟩

theorem bsearchTop_no_crash (keys : List Bytes) (x : Bytes) : bsearchTop keys x ≠ .crash := by
  unfold bsearchTop
  split
  · simp
  · exact bsearch_no_crash keys x 0 keys.length (Nat.le_refl _)

theorem bsearchTop_sound (keys : List Bytes) (x : Bytes) (i : Nat) (h : bsearchTop keys x = .found i) : keys[i]? = some x := by
  unfold bsearchTop at h
  split at h
  · cases h
  · exact bsearch_sound keys x 0 keys.length i h

theorem bsearchTop_correct (keys : List Bytes) (hs : SortedKeys keys) (x : Bytes) :
    (∀ i, (h : i < keys.length) → keys[i] = x → bsearchTop keys x = .found i) ∧
    (x ∉ keys → bsearchTop keys x = .notFound) ∧ bsearchTop keys x ≠ .crash := by
  refine ⟨fun i hi hix => ?_, fun hx => ?_, bsearchTop_no_crash keys x⟩
  · rw [bsearchTop, if_neg (by omega)]
    exact bsearch_complete keys hs x 0 keys.length i (List.getElem?_eq_some_iff.2 ⟨hi, hix⟩) (Nat.zero_le _) hi (Nat.le_refl _)
  · cases hres : bsearchTop keys x with
    | found i => exact absurd (List.mem_of_getElem? (bsearchTop_sound keys x i hres)) hx
    | notFound => rfl
    | crash => exact absurd hres (bsearchTop_no_crash keys x)

theorem SortedKeys.nodup {ks : List Bytes} (hs : SortedKeys ks) : ks.Nodup :=
  List.Pairwise.imp (S := (· ≠ ·)) (fun hlt e => List.lt_irrefl _ (e ▸ hlt)) hs

theorem pairwise_mergeSort_key {α : Type} (key : α → Bytes) (l : List α) :
    (l.mergeSort fun a b => decide (key a ≤ key b)).Pairwise fun a b => decide (key a ≤ key b) = true :=
  List.pairwise_mergeSort (fun a b c => by simpa using List.le_trans) (fun a b => by simpa using List.le_total (key a) (key b)) l

theorem sortedKeys_mergeSort {α : Type} (key : α → Bytes) (l : List α) (hnd : (l.map key).Nodup) :
    SortedKeys ((l.mergeSort fun a b => decide (key a ≤ key b)).map key) := by
  refine List.pairwise_map.2 (((pairwise_mergeSort_key key l).and (List.pairwise_map.1 ?_)).imp
    fun ⟨h1, h2⟩ => Std.lt_of_le_of_ne (of_decide_eq_true h1) h2)
  exact ((List.mergeSort_perm ..).map key).nodup_iff.2 hnd

theorem bsearchTop_cases (keys : List Bytes) (hs : SortedKeys keys) (x : Bytes) :
    (∃ i, ∃ hi : i < keys.length, keys[i] = x ∧ bsearchTop keys x = .found i) ∨
    (x ∉ keys ∧ bsearchTop keys x = .notFound) := by
  obtain ⟨h1, h2, _⟩ := bsearchTop_correct keys hs x
  by_cases hm : x ∈ keys
  · obtain ⟨i, hi, hx⟩ := List.getElem_of_mem hm
    exact .inl ⟨i, hi, hx, h1 i hi hx⟩
  · exact .inr ⟨hm, h2 hm⟩

theorem find?_key_of_mem {α : Type} (key : α → Bytes) {l : List α} (hnd : (l.map key).Nodup) {a : α} (ha : a ∈ l) :
    l.find? (fun b => key b == key a) = some a := by
  induction l with
  | nil => cases ha
  | cons b bs ih =>
    obtain ⟨hb, hbs⟩ := List.nodup_cons.1 hnd
    rw [List.find?_cons]
    rcases List.mem_cons.1 ha with rfl | ha
    · rw [beq_self_eq_true]
    · rw [beq_false_of_ne fun e : key b = key a => hb (e ▸ List.mem_map_of_mem ha)]
      exact ih hbs ha
