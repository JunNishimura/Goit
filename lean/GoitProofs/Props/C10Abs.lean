import GoitProofs.Props.C10
import GoitProofs.Props.C03H  -- both take `Abs.step` apart by `fun_cases`; its auxiliary equations may be generated in one module only

/-! # C10 — the branch / HEAD state machine on the abstract repository (`Abs.step`)

"All other branches keep their commits", "a refused operation changes nothing", and what each accepted
operation does, for every state. The machine is compared with the real repository around every command
of the generated histories (refinement check). -/

namespace C10

open Abs

theorem tip_eq (r : Repo) (m : Name) : tip r m = find r.branches m := rfl

/-- the branch an operation may change (everything else must keep its commit) -/
def target (r : Repo) : Op → List Name
  | .commit _ => [r.head]
  | .branchCreate n => [n]
  | .branchDelete n => [n]
  | .branchRename n => [r.head, n]
  | .switchCreate n => [n]
  | .updateRef n _ => [n]
  | .reset _ => [r.head]
  | _ => []

/-- **In every case all other branches keep their commits.** -/
theorem others_keep (r : Repo) (op : Op) (m : Name) (h : m ∉ target r op) : tip (step r op) m = tip r m := by
  -- the accepted branch commands; refused commands and commands that leave `branches` alone: `rfl`
  have hn := fun {n : Name} {l : List Name} (h : m ∉ n :: l) => List.ne_of_not_mem_cons h
  fun_cases step r op with
  | case5 => exact find_setBranch_other (hn h)                                                     -- commit
  | case6 => exact find_append_other (hn h)                                                        -- branchCreate
  | case9 => exact find_filter_other (hn h)                                                        -- branchDelete
  | case11 => exact (find_append_other (hn (List.not_mem_of_not_mem_cons h))).trans (find_filter_other (hn h))  -- branchRename
  | case16 => exact find_append_other (hn h)                                                       -- switchCreate
  | case19 => exact find_setBranch_other (hn h)                                                    -- updateRef
  | case21 => exact find_setBranch_other (hn h)                                                    -- reset
  | _ => rfl

/-- **`update-ref` sets the named existing branch to the given existing commit** (and is refused, changing
    nothing, for an unknown branch or an id that is not a stored commit) -/
theorem updateRef_spec (r : Repo) (n : Name) (id : Id) :
    ((names r).contains n = true ∧ r.commits.contains id = true → tip (step r (.updateRef n id)) n = some id) ∧
    (¬((names r).contains n = true ∧ r.commits.contains id = true) → step r (.updateRef n id) = r) := by
  constructor
  · intro h
    simp only [step, h.1, h.2, Bool.and_self, if_true, tip_eq]
    exact find_setBranch_self _ _ _
  · exact fun h => if_neg (by rwa [Bool.and_eq_true])

/-- **Duplicate names are refused; a refused creation changes nothing** -/
theorem create_refused (r : Repo) (n : Name) (h : (names r).contains n = true ∨ validName n = false ∨ tip r r.head = none) :
    step r (.branchCreate n) = r := by
  rcases h with h | h | h <;> simp only [step, h] <;> split <;> simp

/-- **Deleting the current branch or an unknown branch is refused and changes nothing** -/
theorem delete_refused (r : Repo) (n : Name) (h : n = r.head ∨ (names r).contains n = false) :
    step r (.branchDelete n) = r := by
  rcases h with h | h <;> simp only [step, h, bne_self_eq_false, Bool.false_and, Bool.and_false, Bool.false_eq_true, if_false]

/-- **`switch` changes which branch HEAD names and nothing else on the reference side but the log** -/
theorem switch_spec (r : Repo) (n : Name) (t : Id) (h : tip r n = some t) :
    (step r (.switch n)).head = n ∧ (step r (.switch n)).branches = r.branches ∧ (step r (.switch n)).index = r.index := by
  simp [step, h]

end C10
