import GoitProofs.Props.C03Closure

/-! C13 / C18 on the whole-repository model: in every state a history reaches `status` succeeds and changes nothing — HEAD's
    snapshot reads back by `W.J`, and on a canonical staging area its lookups cannot fail. -/

namespace C13

open Cmds

/-- **`status` succeeds and changes nothing in every state a history reaches** (with a `.goitignore` in the modelled domain) -/
theorem world_status_ok (H : HashFn) (w : W.World) (tz : Int) (ts : List Int) (l : W.Loaded)
    (hinit : w.inited = true) (hl : W.load H w = some l) (hj : W.J H w) (hk : W.K H w) (hio : W.ignoreOK w = true) :
    (W.run H w ⟨.status, tz, ts⟩).1 = w ∧ (W.run H w ⟨.status, tz, ts⟩).2 = .ok none ∧
    ∃ snap st, (l.headCommit = none → snap = []) ∧ (l.headCommit ≠ none → W.headSnap H w l = .ok snap) ∧
      status H (W.ws w l snap) = .ok st := by
  have hcan : C06.Canonical (W.ws w l []).index := (W.loaded_idx_goodE H w l hl hj.1).canon
  -- `exec` copies the outcome of a read-only command from `run` (its docstring), so `run` itself is unfolded
  unfold W.run
  simp only [hinit, Bool.not_true, Bool.false_eq_true, if_false, W.pathArgs, List.all_nil, hl, hio]
  cases hh : l.headCommit with
  | none =>
    obtain ⟨st, hst⟩ := status_ok H (W.ws w l []) hcan
    simp only [hst]
    exact ⟨trivial, trivial, [], st, (fun _ => rfl), (fun h => absurd rfl h), hst⟩
  | some ic =>
    obtain ⟨id, c⟩ := ic
    obtain ⟨es, hsnap, _⟩ := W.headSnap_total H w l hl hj hk id c hh
    simp only [hsnap]
    obtain ⟨st, hst⟩ := status_ok H (W.ws w l es) hcan
    simp only [hst]
    exact ⟨trivial, trivial, es, st, (fun h => by cases h), (fun _ => rfl), hst⟩

end C13
