import GoitModel.Obj
import GoitProofs.Lemmas.Bytes

/-! # C01 — Object store: content addressing and lossless round trip -/

namespace C01

/-- the kind names contain neither of the two separators of the header -/
theorem kind_str_plain (k : Kind) : (0 : UInt8) ∉ k.str ∧ (32 : UInt8) ∉ k.str := by
  cases k <;> simp [Kind.str, asc]

theorem kind_parse_str (k : Kind) (h : k ≠ .undefined) : Kind.parse k.str = some k := by
  revert h; cases k <;> decide +kernel

/-- **Lossless round trip of the object codec**, for *every* byte string `d` (empty, binary,
    containing NULs, or looking like a header itself) and every real kind: reading the stored bytes
    back yields the same kind and exactly the same bytes. The size bound is Go's `int` range. -/
theorem decode_encode (k : Kind) (d : Bytes) (hk : k ≠ .undefined) (hd : d.length ≤ Fmt.int64Max) :
    Obj.decode (Obj.encode k d) = some (k, d) := by
  have h0 : (0 : UInt8) ∉ k.str ++ 32 :: Dec.ofNat d.length := by
    simp [(kind_str_plain k).1, Dec.ofNat_not_mem _ 0 (by decide)]
  have e : Obj.encode k d = (k.str ++ 32 :: Dec.ofNat d.length) ++ 0 :: d := by
    simp [Obj.encode, Obj.header]
  unfold Obj.decode
  rw [e, Bytes.cut1_append 0 _ _ h0]
  simp only [Option.getD_some]
  rw [Bytes.cut1_append 32 _ _ (kind_str_plain k).2]
  simp only [kind_parse_str k hk, Fmt.sscanfD_ofNat _ hd, if_true]

/-- the stored bytes determine kind and content: distinct (kind, bytes) never share stored bytes -/
theorem encode_injective (k k' : Kind) (d d' : Bytes) (hk : k ≠ .undefined) (hk' : k' ≠ .undefined)
    (hd : d.length ≤ Fmt.int64Max) (hd' : d'.length ≤ Fmt.int64Max)
    (h : Obj.encode k d = Obj.encode k' d') : k = k' ∧ d = d' :=
  Prod.mk.inj (Option.some.inj ((decode_encode k d hk hd).symm.trans (h ▸ decode_encode k' d' hk' hd')))

/-- **The id is the hash of `'<kind> <length>\0<bytes>'`** (so equal content always has the same id:
    `Obj.id` is a function of kind and bytes only). -/
theorem id_eq (H : HashFn) (k : Kind) (d : Bytes) :
    Obj.id H k d = H.sha (k.str ++ [32] ++ Dec.ofNat d.length ++ [0] ++ d) := rfl

/-- the layout of a concrete header, as Git assigns it -/
example : Obj.encode .blob (asc "hi\n") = asc "blob 3" ++ [0] ++ asc "hi\n" := by decide +kernel

theorem sha_ne_nil (H : HashFn) (c : Bytes) : H.sha c ≠ [] := fun h => by
  have := H.len20 c
  rw [h] at this
  cases this

theorem get_eq_ok_iff (H : HashFn) (s : Store) (i : Bytes) (x : Kind × Bytes) :
    Store.get H s i = .ok x ↔ ∃ c, s i = some c ∧ H.sha c = i ∧ Obj.decode c = some x := by
  unfold Store.get
  by_cases hi : i = []
  · subst hi
    simp only [if_true, reduceCtorEq, false_iff]
    rintro ⟨c, -, h, -⟩
    exact sha_ne_nil H c h
  · cases hs : s i with
    | none => simp [hi]
    | some c =>
      cases hd : Obj.decode c with
      | none => simp [hi, hd]
      | some kd => by_cases hsha : H.sha c = i <;> simp [hi, hd, hsha]

theorem get_stored (H : HashFn) (s : Store) (k : Kind) (d : Bytes) (hk : k ≠ .undefined)
    (hd : d.length ≤ Fmt.int64Max) (h : s (Obj.id H k d) = some (Obj.encode k d)) :
    Store.get H s (Obj.id H k d) = .ok (k, d) :=
  (get_eq_ok_iff ..).2 ⟨_, h, rfl, decode_encode k d hk hd⟩

/-- **Read your write**: after storing, the object is retrieved by its id with the same kind and bytes. -/
theorem get_put (H : HashFn) (s : Store) (k : Kind) (d : Bytes) (hk : k ≠ .undefined)
    (hd : d.length ≤ Fmt.int64Max) :
    Store.get H (Store.put H s k d) (Obj.id H k d) = .ok (k, d) :=
  get_stored H _ k d hk hd (if_pos rfl)

/-- **Storing never damages what is already stored**: every id that was readable before reads the
    same kind and bytes afterwards, provided the new content does not collide with the content
    stored under that id (an explicit, finite collision-freedom hypothesis — global injectivity of a
    20-byte hash is false and is not assumed). -/
theorem put_frame (H : HashFn) (s : Store) (k : Kind) (d : Bytes) (i : Bytes) (x : Kind × Bytes)
    (hcf : CollisionFreeOn H (fun b => b = Obj.encode k d ∨ s i = some b))
    (hget : Store.get H s i = .ok x) :
    Store.get H (Store.put H s k d) i = .ok x := by
  obtain ⟨c, hs, hsha, hdec⟩ := (get_eq_ok_iff ..).1 hget
  refine (get_eq_ok_iff ..).2 ⟨c, ?_, hsha, hdec⟩
  simp only [Store.put]
  split
  · -- same id: by collision freedom the stored content is the new content
    rename_i hid
    rw [hcf c (Obj.encode k d) (Or.inr hs) (Or.inl rfl) (by rw [hsha, hid]; rfl)]
  · exact hs

/-- **Storing again changes nothing.** -/
theorem put_idem (H : HashFn) (s : Store) (k : Kind) (d : Bytes) :
    Store.put H (Store.put H s k d) k d = Store.put H s k d := by
  funext i
  simp only [Store.put]
  split <;> rfl

/-- non-vacuity: a concrete store state and payload that looks like a header satisfy the hypotheses -/
example : Obj.decode (Obj.encode .blob (asc "blob 3" ++ [0] ++ asc "abc")) =
    some (.blob, asc "blob 3" ++ [0] ++ asc "abc") :=
  decode_encode _ _ (by decide) (by decide +kernel)

end C01
