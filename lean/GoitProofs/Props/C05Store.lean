import GoitProofs.Props.C01
import GoitProofs.Props.C02
import GoitProofs.Props.C05
import GoitProofs.Props.C12Commit
import GoitModel.Cmds

/-! # C02 / C05 — the snapshot read back through the object store

`readback_writeTree`: Goit's tree reader (`walkTree`, recursing through `GetObject`) applied to the root
tree that Goit's tree writer (`writeTreeObject`) stored, flattened by `getEntriesFromTree`, is exactly the
list of staged entries — nested directories, any names without NUL, any 20-byte blob ids. The store may
be *any* store that holds the objects the writer wrote (this is what collision freedom of the written
contents gives; see `holds_of_collision_free`). `reset_readback` (C05 / C08): `Index.Reset` to a commit Goit
created installs exactly the entries staged when it was made. -/

namespace C05

open TreeBuild TreeCodec

/-- the store holds every object of the list under its id -/
def Holds (s : Store) (ws : List (Bytes × Bytes)) : Prop := ∀ p ∈ ws, s p.1 = some p.2
/-- every written content fits Go's `int` (the size field round trips) -/
def Small (ws : List (Bytes × Bytes)) : Prop := ∀ p ∈ ws, p.2.length ≤ Fmt.int64Max

/-- what the index guarantees about an entry: a 20-byte id and a path without NUL bytes -/
def EntryOK (e : Entry) : Prop := e.id.length = 20 ∧ (0 : UInt8) ∉ e.path
def EntriesOK (es : List Entry) : Prop := ∀ e ∈ es, EntryOK e

theorem get_of_holds (H : HashFn) (s : Store) (ws : List (Bytes × Bytes)) (hh : Holds s ws) (hs : Small ws) (k : Kind) (d : Bytes)
    (hk : k ≠ .undefined) (hm : (H.sha (Obj.encode k d), Obj.encode k d) ∈ ws) :
    Store.get H s (H.sha (Obj.encode k d)) = .ok (k, d) :=
  C01.get_stored H s k d hk (Nat.le_trans (by simp [Obj.encode]) (hs _ hm)) (hh _ hm)

def toItem (H : HashFn) (f : Nat) : TreeBuild.Item → C05.Item
  | .leaf n i => ⟨false, n, i, []⟩
  | .dir d sub => ⟨true, d, (write H f sub).id, build H f sub⟩

/-- the bytes `writeTreeObject` emits are the layout `encodeItems` of its items -/
def dataOf (H : HashFn) (f : Nat) (es : List Entry) : Bytes :=
  encodeItems ((group [] [] es).map (toItem H f))

theorem parts_data (H : HashFn) (f : Nat) (items : List TreeBuild.Item) :
    ((items.map (part (write H f))).map (·.2)).flatten = encodeItems (items.map (toItem H f)) := by
  induction items with
  | nil => rfl
  | cons it rest ih =>
    simp only [List.map_cons, List.flatten_cons]
    rw [ih]
    cases it <;> simp [encodeItems, toItem, Item.mode, part]

theorem write_id (H : HashFn) (f : Nat) (es : List Entry) :
    (write H (f + 1) es).id = Obj.id H .tree (dataOf H f es) := by
  simp only [write, dataOf, parts_data, Obj.id]

theorem mem_writes (H : HashFn) (f : Nat) (es : List Entry) (p : Bytes × Bytes) :
    p ∈ (write H (f + 1) es).writes ↔
      (∃ d sub, .dir d sub ∈ group [] [] es ∧ p ∈ (write H f sub).writes) ∨
        p = (Obj.id H .tree (dataOf H f es), Obj.encode .tree (dataOf H f es)) := by
  simp only [write, dataOf, parts_data, Obj.id, List.mem_append, List.mem_flatten, List.mem_map, List.mem_singleton]
  refine or_congr ⟨?_, fun ⟨d, sub, hm, hp⟩ => ⟨_, ⟨_, ⟨.dir d sub, hm, rfl⟩, rfl⟩, hp⟩⟩ Iff.rfl
  rintro ⟨l, ⟨pr, ⟨it, hit, rfl⟩, rfl⟩, hpl⟩
  cases it with
  | leaf n i => nomatch hpl
  | dir d sub => exact ⟨d, sub, hit, hpl⟩

theorem entriesOK_pre (d : Bytes) (sub : List Entry) (hsne : sub ≠ []) (h : EntriesOK (pre d sub)) :
    (0 : UInt8) ∉ d ∧ EntriesOK sub := by
  have hin : ∀ x ∈ sub, EntryOK ⟨x.id, d ++ 47 :: x.path⟩ := List.forall_mem_map.1 h
  obtain ⟨b, bs, rfl⟩ := List.exists_cons_of_ne_nil hsne
  exact ⟨fun h0 => (hin b List.mem_cons_self).2 (List.mem_append_left _ h0),
    fun x hx => ⟨(hin x hx).1, fun h0 => (hin x hx).2 (List.mem_append_right _ (List.mem_cons_of_mem _ h0))⟩⟩

theorem build_nodesOf (H : HashFn) (f : Nat) (es : List Entry) :
    build H (f + 1) es = nodesOf ((group [] [] es).map (toItem H f)) := by
  rw [build_succ, nodesOf, List.map_map]
  exact List.map_congr_left fun it _ => by cases it <;> rfl

theorem get_root (H : HashFn) (s : Store) (ws : List (Bytes × Bytes)) (hh : Holds s ws) (hs : Small ws) (f : Nat)
    (es : List Entry) (hsub : ∀ p ∈ (write H (f + 1) es).writes, p ∈ ws) :
    Store.get H s (write H (f + 1) es).id = .ok (.tree, dataOf H f es) := by
  rw [write_id]
  exact get_of_holds H s ws hh hs .tree _ (by decide) (hsub _ ((mem_writes ..).2 (.inr rfl)))

/-- the conclusion is literally what `ItemOK (subAt H s f)` asks of a directory entry, so the induction
    hypothesis is used as it stands -/
theorem subAt_write (H : HashFn) (s : Store) (ws : List (Bytes × Bytes)) (hh : Holds s ws) (hs : Small ws) (f : Nat)
    (es : List Entry) (hok : AllOK es) (heok : EntriesOK es) (hf : size es < f)
    (hsub : ∀ p ∈ (write H f es).writes, p ∈ ws) :
    (write H f es).id.length = 20 ∧ subAt H s f (write H f es).id = some (build H f es) := by
  induction f generalizing es with
  | zero => omega
  | succ f ih =>
    refine ⟨H.len20 _, ?_⟩
    rw [subAt, get_root H s ws hh hs f es hsub, build_nodesOf]
    refine walk_encode H s f _ fun x hx => ?_
    obtain ⟨it, hit, rfl⟩ := List.mem_map.1 hx
    -- whatever an item holds is, with its directory prefix, an entry of the input
    have hent : EntriesOK it.entries := fun e he => heok e ((entries_sublist es hok it hit).subset he)
    cases it with
    | leaf n i => exact (hent ⟨i, n⟩ List.mem_cons_self).imp_right (⟨·, rfl⟩)
    | dir d sub =>
      obtain ⟨hsne, hsubok, -, hsz⟩ := C02.subtrees_wellformed es hok d sub hit
      obtain ⟨hd0, hsubeok⟩ := entriesOK_pre d sub hsne hent
      obtain ⟨h20, hsubAt⟩ := ih sub hsubok hsubeok (Nat.lt_of_lt_of_le hsz (Nat.le_of_lt_succ hf)) fun p hp =>
        hsub p ((mem_writes ..).2 (.inl ⟨d, sub, hit, hp⟩))
      exact ⟨h20, hd0, hsubAt⟩

/-- **Reader ∘ writer through the store**: the reader, started on the root tree the writer stored and
    resolving sub-trees through `GetObject` of any store holding the written objects, rebuilds exactly
    the node structure of the writer. -/
theorem walk_write (H : HashFn) (s : Store) (f : Nat) (es : List Entry) (hok : AllOK es) (heok : EntriesOK es)
    (hf : size es < f + 1) (hh : Holds s (write H (f + 1) es).writes) (hs : Small (write H (f + 1) es).writes) :
    walk H s (f + 1) (dataOf H f es) = some (build H (f + 1) es) := by
  have h := (subAt_write H s _ hh hs (f + 1) es hok heok hf fun _ hp => hp).2
  rwa [subAt, get_root H s _ hh hs f es fun _ hp => hp] at h

/-- the store after the writer's objects have been written in order -/
def storeAfter (s : Store) (ws : List (Bytes × Bytes)) : Store := ws.foldl (fun st p => Store.putRaw st p.1 p.2) s

theorem storeAfter_eq (s : Store) (ws : List (Bytes × Bytes)) (i : Bytes) :
    (storeAfter s ws i = s i ∧ ∀ p ∈ ws, p.1 ≠ i) ∨ ∃ q ∈ ws, q.1 = i ∧ storeAfter s ws i = some q.2 := by
  induction ws generalizing s with
  | nil => exact .inl ⟨rfl, nofun⟩
  | cons w ws ih =>
    rcases ih (Store.putRaw s w.1 w.2) with ⟨h, hno⟩ | ⟨q, hq, h⟩
    · by_cases hw : w.1 = i
      · exact .inr ⟨w, List.mem_cons_self, hw, h.trans (if_pos hw.symm)⟩
      · exact .inl ⟨h.trans (if_neg (Ne.symm hw)), List.forall_mem_cons.2 ⟨hw, hno⟩⟩
    · exact .inr ⟨q, List.mem_cons_of_mem _ hq, h⟩

theorem holds_storeAfter (s : Store) (ws : List (Bytes × Bytes))
    (hfun : ∀ p ∈ ws, ∀ q ∈ ws, p.1 = q.1 → p.2 = q.2) : Holds (storeAfter s ws) ws := fun p hp => by
  rcases storeAfter_eq s ws p.1 with ⟨-, hno⟩ | ⟨q, hq, hqp, h⟩
  · exact absurd rfl (hno p hp)
  · rw [h, hfun q hq p hp hqp]

theorem writes_are_trees (H : HashFn) (f : Nat) (es : List Entry) :
    ∀ p ∈ (write H f es).writes, ∃ d, p = (Obj.id H .tree d, Obj.encode .tree d) := by
  induction f generalizing es with
  | zero => nofun
  | succ f ih =>
    intro p hp
    rcases (mem_writes H f es p).1 hp with ⟨d, sub, -, h⟩ | rfl
    · exact ih sub p h
    · exact ⟨_, rfl⟩

theorem writes_id_eq (H : HashFn) (f : Nat) (es : List Entry) : ∀ p ∈ (write H f es).writes, p.1 = H.sha p.2 := fun p hp => by
  obtain ⟨d, rfl⟩ := writes_are_trees H f es p hp; rfl

theorem holds_of_collision_free (H : HashFn) (s : Store) (ws : List (Bytes × Bytes)) (hid : ∀ p ∈ ws, p.1 = H.sha p.2)
    (hcf : CollisionFreeOn H (fun b => ∃ p ∈ ws, p.2 = b)) : Holds (storeAfter s ws) ws :=
  holds_storeAfter s ws fun p hp q hq e => hcf p.2 q.2 ⟨p, hp, rfl⟩ ⟨q, hq, rfl⟩ (by rw [← hid p hp, ← hid q hq, e])

theorem readback_of_holds (H : HashFn) (s : Store) (es : List Entry) (hok : AllOK es) (heok : EntriesOK es)
    (hh : Holds s (writeTree H es).writes) (hs : Small (writeTree H es).writes) :
    Store.get H s (writeTree H es).id = .ok (.tree, dataOf H (size es) es) ∧
      walk H s (fuelFor es) (dataOf H (size es) es) = some (build H (fuelFor es) es) :=
  -- `fuelFor es` is `size es + 1` by `rfl`: the root is read with the fuel it was written with
  ⟨get_root H s _ hh hs (size es) es fun _ hp => hp, walk_write H s (size es) es hok heok (Nat.lt_succ_self _) hh hs⟩

/-- **What Goit reads from a snapshot is what it wrote** (C02 `snapshot`, C05 `reset-readback`): after
    `writeTreeObject` has stored the trees of the staged entries `es`, `GetObject` of the root id yields a
    tree object whose `walkTree`, flattened by `getEntriesFromTree`, is exactly `es` — provided the
    contents written do not collide with each other under the hash (finite, explicit hypothesis). -/
theorem readback_writeTree (H : HashFn) (s : Store) (es : List Entry) (hok : AllOK es) (heok : EntriesOK es)
    (hcf : CollisionFreeOn H (fun b => ∃ p ∈ (writeTree H es).writes, p.2 = b))
    (hsmall : Small (writeTree H es).writes) :
    let s' := storeAfter s (writeTree H es).writes
    ∃ data, Store.get H s' (writeTree H es).id = .ok (.tree, data) ∧
      (walk H s' (fuelFor es) data).map flattenTree = some es := by
  intro s'
  obtain ⟨hget, hwalk⟩ := readback_of_holds H s' es hok heok
    (holds_of_collision_free H s _ (writes_id_eq H _ es) hcf) hsmall
  exact ⟨_, hget, by rw [hwalk, Option.map_some, C02.flatten_writeTree H es hok]⟩

/-- **`reset` reads back what `commit` wrote.** Let `commit` have stored the trees of the staged
    entries `es` and then the commit object naming the root tree (author/committer/message as `commit`
    formats them). Then `Index.Reset` to that commit (`GetObject` → `NewCommit` → `GetObject` → `walkTree` →
    `getEntriesFromTree`) installs exactly `es` — the composition of the object codec (C01), the commit
    codec (C12), the tree reader∘writer (C05) and the flattening (C02), through the object store. -/
theorem reset_readback (H : HashFn) (s : Store) (es : List Entry) (parent : Option Bytes) (a c : Sign) (msg : List Bytes)
    (hok : AllOK es) (heok : EntriesOK es) (hmsg : msg ≠ []) (hp : ∀ p, parent = some p → p.length = 20)
    (ha : C12.SignOK a) (hc : C12.SignOK c)
    (hlines : ∀ l ∈ C12.headerLines (writeTree H es).id parent a c ++ [[]] ++ msg, Bytes.LineOK l) :
    let data := Commit.format (writeTree H es).id (parent.map hashStr) a c (Bytes.join [10] msg)
    let content := Obj.encode .commit data
    let ws := (writeTree H es).writes ++ [(H.sha content, content)]
    CollisionFreeOn H (fun b => ∃ p ∈ ws, p.2 = b) → Small ws →
    Cmds.resetEntries H (storeAfter s ws) (fuelFor es) (H.sha content) = .ok es := by
  intro data content ws hcf hsmall
  have hh : Holds (storeAfter s ws) ws :=
    holds_of_collision_free H s ws
      (List.forall_mem_append.2 ⟨writes_id_eq H _ es, List.forall_mem_singleton.2 rfl⟩) hcf
  have hcget : Store.get H (storeAfter s ws) (H.sha content) = .ok (.commit, data) :=
    get_of_holds H _ ws hh hsmall .commit data (by decide) (List.mem_append_right _ List.mem_cons_self)
  obtain ⟨htget, hwalk⟩ := readback_of_holds H (storeAfter s ws) es hok heok
    (fun p hp => hh p (List.mem_append_left _ hp)) (fun p hp => hsmall p (List.mem_append_left _ hp))
  have hparse := C12.commit_parse_format (writeTree H es).id parent a c msg hmsg (H.len20 _) hp ha hc hlines
  unfold Cmds.resetEntries
  simp only [hcget, ne_eq, not_true_eq_false, if_false, data, hparse, htget, newTree, if_true, hwalk,
    C02.flatten_writeTree H es hok]

end C05
