import GoitModel.Cmds
import GoitProofs.Props.C04

/-! # C04 at command level: `goit rm args`, `goit add args` and `add <directory>` on the command model (`Cmds.rm`, `Cmds.add`)

The command models are compared with the real commands on every `rm`/`add` of the generated histories
(derived `cmd.rm` / `cmd.add` lines). -/

namespace C04

open IndexOps C06 Cmds

/-- what one argument of `rm` leaves in the staging area -/
def Kept (p : Bytes) (e : Entry) : Prop := e.path ≠ p ∧ ¬ Beneath p e.path

theorem beneath_contains (es : List Entry) (d : Bytes) (e : Entry) (he : e ∈ es) :
    (if isDir es d then (byDir es d).map (·.path) else []).contains e.path = under d e.path :=
  Bool.eq_iff_iff.2 <| List.contains_iff_mem.trans <| List.mem_ite_nil_right.trans
    ⟨fun ⟨_, hm⟩ => let ⟨_, he', hp⟩ := List.mem_map.1 hm; hp ▸ (List.mem_filter.1 he').2,
     fun hu => ⟨List.any_eq_true.2 ⟨e, he, hu⟩, List.mem_map.2 ⟨e, List.mem_filter.2 ⟨he, hu⟩, rfl⟩⟩⟩

theorem filter_ne_of_found (es : List Entry) (hs : Canonical es) (p : Bytes) :
    (if found es p then es.filter (fun e => e.path != p) else es) = es.filter (fun e => e.path != p) :=
  ite_eq_left_iff.2 fun hnf =>
    (List.filter_eq_self.2 fun e he => bne_iff_ne.2 fun hp => hnf ((found_iff es hs p).2 ⟨e, he, hp⟩)).symm

theorem rmArgs_eq {w : WS} {args : List Bytes} {idx idx' : List Entry} {removed removed' : List Bytes}
    (hs : Canonical idx) (h : rmArgs w args idx removed = .ok (idx', removed')) :
    idx' = idx.filter fun e => args.all fun a => e.path != cleanPath a && !under (cleanPath a) e.path := by
  -- the cases of `rmArgs`: 1 no argument left, 2 the argument is no longer tracked, 3 it is removed and the loop goes on
  fun_induction rmArgs w args idx removed with
  | case1 idx removed => cases h; exact (List.filter_eq_self.2 fun _ _ => rfl).symm
  | case2 => cases h
  | case3 a rest idx removed p wasDir beneath idx1 reg hg idx2 ih =>
    have e2 : idx2 = idx.filter fun e => e.path != cleanPath a && !under (cleanPath a) e.path :=
      (filter_ne_of_found idx1 (filter_canonical idx hs _) p).trans <| List.filter_filter.trans <|
        List.filter_congr fun e he => congrArg (_ && !·) (beneath_contains idx p e he)
    rw [ih (e2 ▸ filter_canonical idx hs _) h, e2, List.filter_filter]
    exact List.filter_congr fun e _ => Bool.and_comm _ _

/-- **`rm` removes exactly the named tracked paths and everything tracked beneath a named directory; every
    other entry stays as it was (same id, same path), in the same order.** For every canonical staging
    area and every argument list on which the command succeeds. -/
theorem rmArgs_exact (w : WS) (args : List Bytes) (idx : List Entry) (removed : List Bytes)
    (hs : Canonical idx) (idx' : List Entry) (removed' : List Bytes)
    (h : rmArgs w args idx removed = .ok (idx', removed')) :
    Canonical idx' ∧ idx'.Sublist idx ∧ ∀ e, e ∈ idx' ↔ e ∈ idx ∧ ∀ a ∈ args, Kept (cleanPath a) e := by
  rw [rmArgs_eq hs h]
  refine ⟨filter_canonical idx hs _, List.filter_sublist, fun e => ?_⟩
  simp only [List.mem_filter, List.all_eq_true, Bool.and_eq_true, bne_iff_ne, Bool.not_eq_true', ← Bool.not_eq_true,
    under_iff, Kept]

/-- `goit rm` as a whole: it is refused (nothing changes) unless every argument is a tracked path or a
    tracked directory, and then removes exactly the named paths -/
theorem rm_exact (w : WS) (args : List Bytes) (hs : Canonical w.index) (idx' : List Entry) (removed' : List Bytes)
    (h : rm w args = .ok (idx', removed')) :
    (∀ a ∈ args, (∃ e ∈ w.index, e.path = cleanPath a) ∨ ∃ e ∈ w.index, Beneath (cleanPath a) e.path) ∧
    Canonical idx' ∧ idx'.Sublist w.index ∧ ∀ e, e ∈ idx' ↔ e ∈ w.index ∧ ∀ a ∈ args, Kept (cleanPath a) e := by
  obtain ⟨hall, h⟩ := Res.of_ite_err h
  exact ⟨fun a ha => (known_iff _ hs _).1 (List.all_eq_true.1 hall a ha), rmArgs_exact w args w.index [] hs idx' removed' h⟩

/-- an argument that is neither tracked nor a tracked directory makes `rm` refuse -/
theorem rm_unknown_refused (w : WS) (args : List Bytes) (hs : Canonical w.index) (a : Bytes) (ha : a ∈ args)
    (h1 : ∀ e ∈ w.index, e.path ≠ cleanPath a) (h2 : ∀ e ∈ w.index, ¬ Beneath (cleanPath a) e.path) :
    rm w args = .err := by
  rw [rm, if_neg]
  intro hall
  rcases (known_iff _ hs _).1 (List.all_eq_true.1 hall a ha) with ⟨e, he, hp⟩ | ⟨e, he, hp⟩
  · exact h1 e he hp
  · exact h2 e he hp

theorem addOne_spec (H : HashFn) (es : List Entry) (hs : Canonical es) (p data : Bytes) :
    ∃ es', addOne H es p data = .ok es' ∧ Canonical es' ∧ (⟨Obj.id H .blob data, p⟩ : Entry) ∈ es' ∧
      Frame (· = p) es es' := by
  obtain ⟨ch, es', hu, hin, hfr⟩ := update_membership es hs (Obj.id H .blob data) p
  exact ⟨es', by simp [addOne, hu, Res.map], update_canonical es hs _ p ch es' hu, hin, hfr⟩

/-- the paths an argument of `add` may touch: the named path itself and everything beneath it (`.` = everything) -/
def Touches (a q : Bytes) : Prop := a = asc "." ∨ q = a ∨ Beneath a q

theorem filesUnder_touches (w : WS) (p : Bytes) (f : Bytes × Bytes) (h : f ∈ filesUnder w p) : Touches p f.1 := by
  simp only [filesUnder, List.mem_filter, Bool.or_eq_true, beq_iff_eq, under_iff] at h
  exact h.2.imp id Or.inr

theorem addFold_staged (H : HashFn) (fs : List (Bytes × Bytes)) (es : List Entry) (hs : Canonical es) :
    ∃ es', fs.foldl (fun (acc : Res (List Entry)) f => acc.bind fun i => addOne H i f.1 f.2) (Res.ok es) = .ok es' ∧
      Canonical es' ∧ Frame (· ∈ fs.map (·.1)) es es' ∧
      ((fs.map (·.1)).Nodup → ∀ f ∈ fs, (⟨Obj.id H .blob f.2, f.1⟩ : Entry) ∈ es') := by
  induction fs generalizing es with
  | nil => exact ⟨es, rfl, hs, Frame.refl _ _, fun _ _ h => nomatch h⟩
  | cons f fs ih =>
    obtain ⟨es1, h1, hc1, hin1, hfr1⟩ := addOne_spec H es hs f.1 f.2
    obtain ⟨es2, h2, hc2, hfr2, hin2⟩ := ih es1 hc1
    refine ⟨es2, ?_, hc2, (hfr1.trans hfr2).mono fun _ => List.mem_cons.2, fun hnd g hg => ?_⟩
    · simp only [List.foldl_cons, Res.bind, h1]; exact h2
    · obtain ⟨hf, hnd⟩ := List.nodup_cons.1 hnd
      rcases List.mem_cons.1 hg with rfl | hg
      · exact (hfr2 _ hf).2 hin1
      · exact hin2 hnd g hg

/-- `∃ i`: `ignored` reads the index (does a missing path count as a directory?), and the index moves along the loop -/
def AddTouches (w : WS) (args : List Bytes) (q : Bytes) : Prop :=
  (∃ a ∈ args, Touches (cleanPath a) q) ∧ ∃ i, ignored { w with index := i } q = false

theorem addTouches_self {w : WS} {idx : List Entry} {p : Bytes} (hig : ¬ ignored { w with index := idx } p = true) :
    ∀ q, q = p → Touches p q ∧ ∃ i, ignored { w with index := i } q = false := by
  rintro _ rfl; exact ⟨Or.inr (Or.inl rfl), idx, Bool.eq_false_iff.2 hig⟩

theorem AddTouches.cons {w : WS} {a : Bytes} {rest : List Bytes} {idx idx1 idx' : List Entry} {S : Bytes → Prop}
    (hS : ∀ q, S q → Touches (cleanPath a) q ∧ ∃ i, ignored { w with index := i } q = false)
    (h1 : Frame S idx idx1) (h2 : Canonical idx' ∧ Frame (AddTouches w rest) idx1 idx') :
    Canonical idx' ∧ Frame (AddTouches w (a :: rest)) idx idx' :=
  ⟨h2.1, (h1.trans h2.2).mono fun q hq => hq.elim (fun h => ⟨⟨a, List.mem_cons_self, (hS q h).1⟩, (hS q h).2⟩)
    fun ⟨⟨a', ha', ht⟩, hi⟩ => ⟨⟨a', List.mem_cons_of_mem _ ha', ht⟩, hi⟩⟩

theorem addArgs_spec (H : HashFn) (w : WS) (args : List Bytes) (idx : List Entry) (hs : Canonical idx)
    (idx' : List Entry) (h : addArgs H w args idx = .ok idx') :
    Canonical idx' ∧ Frame (AddTouches w args) idx idx' := by
  -- the cases of `addArgs`: 1 no argument left, 2 ignored, 3 a tracked path gone from disk is unstaged (4, 5: that fails),
  -- 6 a directory (7: staging one of its files fails), 8 a file (9: staging it fails), 10 neither
  fun_induction addArgs H w args idx with
  | case1 => cases h; exact ⟨hs, Frame.refl _ _⟩
  | case2 a rest idx p _ ih => exact AddTouches.cons (S := fun _ => False) (fun _ h => h.elim) (Frame.refl _ _) (ih hs h)
  | case3 a rest idx p hig _ idx1 hd ih =>
    obtain ⟨hc1, hfr1⟩ := delete_frame idx hs p idx1 hd
    exact AddTouches.cons (addTouches_self hig) hfr1 (ih hc1 h)
  | case6 a rest idx p _ _ _ fs idx1 hf ih =>
    obtain ⟨_, hf', hc1, hfr1, _⟩ := addFold_staged H fs idx hs
    cases hf.symm.trans hf'
    refine AddTouches.cons (fun q hq => ?_) hfr1 (ih hc1 h)
    obtain ⟨f, hf, rfl⟩ := List.mem_map.1 hq
    have := List.mem_filter.1 hf
    exact ⟨filesUnder_touches w p f this.1, idx, by simpa using this.2⟩
  | case7 _ _ _ _ _ _ _ _ x => exact (x _ h).elim
  | case8 a rest idx p hig _ _ data _ idx1 h1 ih =>
    obtain ⟨_, h1', hc1, _, hfr1⟩ := addOne_spec H idx hs p data
    cases h1.symm.trans h1'
    exact AddTouches.cons (addTouches_self hig) hfr1 (ih hc1 h)
  | case9 _ _ _ _ _ _ _ _ _ x => exact (x _ h).elim
  | _ => cases h

/-- **`add` changes precisely the named paths**: for every canonical staging area, work tree, ignore file and
    argument list, if the per-argument loop succeeds the staging area is canonical again and every entry whose
    path is not named by (or beneath) an argument is present afterwards iff it was present before — with the
    same id, since entries are (id, path) pairs. -/
theorem addArgs_frame (H : HashFn) (w : WS) (args : List Bytes) (idx : List Entry) (hs : Canonical idx)
    (idx' : List Entry) (h : addArgs H w args idx = .ok idx') :
    Canonical idx' ∧ ∀ e : Entry, (∀ a ∈ args, ¬ Touches (cleanPath a) e.path) → (e ∈ idx' ↔ e ∈ idx) :=
  (addArgs_spec H w args idx hs idx' h).imp_right fun hfr e he => hfr e fun ⟨⟨a, ha, ht⟩, _⟩ => he a ha ht

/-- **`add <file>` stages that file's bytes**: a single argument naming an existing, not ignored file puts
    exactly the blob id of its current bytes under that path. -/
theorem add_file_staged (H : HashFn) (w : WS) (a data : Bytes) (hs : Canonical w.index)
    (hig : ignored w (cleanPath a) = false) (hfile : fileAt w (cleanPath a) = some data)
    (hnd : isDirOnDisk w (cleanPath a) = false) :
    ∃ idx', add H w [a] = .ok idx' ∧ Canonical idx' ∧ (⟨Obj.id H .blob data, cleanPath a⟩ : Entry) ∈ idx' ∧
      ∀ e : Entry, e.path ≠ cleanPath a → (e ∈ idx' ↔ e ∈ w.index) := by
  obtain ⟨idx1, h1, hc1, hin, hfr1⟩ := addOne_spec H w.index hs (cleanPath a) data
  have hex : existsOnDisk w (cleanPath a) = true := by simp [existsOnDisk, isFile, hfile]
  exact ⟨idx1, by simp [add, addArgs, hex, hig, hnd, hfile, h1], hc1, hin, hfr1⟩

/-- **`add <dir>` (or `add .`) stages each file beneath the directory with the blob id of its current
    bytes**, for every work tree (a map from paths to bytes), `.goitignore` and canonical staging area;
    ignored files are skipped, every path outside the directory keeps its entry. -/
theorem add_dir_staged (H : HashFn) (w : WS) (a : Bytes) (hs : Canonical w.index)
    (hnd : (w.files.map (·.1)).Nodup)
    (hig : ignored w (cleanPath a) = false) (hdir : isDirOnDisk w (cleanPath a) = true) :
    ∃ idx', add H w [a] = .ok idx' ∧ Canonical idx' ∧
      (∀ f ∈ w.files, (cleanPath a = asc "." ∨ Beneath (cleanPath a) f.1) → ignored w f.1 = false →
        (⟨Obj.id H .blob f.2, f.1⟩ : Entry) ∈ idx') ∧
      (∀ e : Entry, ¬ Touches (cleanPath a) e.path → (e ∈ idx' ↔ e ∈ w.index)) := by
  have hex : existsOnDisk w (cleanPath a) = true := by simp [existsOnDisk, hdir]
  obtain ⟨idx1, hf, _, _, hin1⟩ := addFold_staged H ((filesUnder w (cleanPath a)).filter fun f => !ignored w f.1) w.index hs
  have hadd : addArgs H w [a] w.index = .ok idx1 := by simp [addArgs, hex, hig, hdir, hf]
  obtain ⟨hc, hfr⟩ := addArgs_frame H w [a] w.index hs idx1 hadd
  refine ⟨idx1, by simp [add, hex, hadd], hc, fun f hf' hu hnig => ?_, fun e hn => hfr e (List.forall_mem_singleton.2 hn)⟩
  apply hin1 (hnd.sublist ((List.filter_sublist.trans List.filter_sublist).map _)) f
  simp only [List.mem_filter, filesUnder, Bool.or_eq_true, beq_iff_eq, under_iff, hnig]
  exact ⟨⟨hf', hu⟩, rfl⟩

end C04

section Examples
open Cmds
def exW : WS := ⟨[⟨[1], asc "a"⟩, ⟨[2], asc "d-old"⟩, ⟨[3], asc "d/x"⟩], [(asc "a", asc "A"), (asc "n", asc "N")], [], none, [], false⟩
example : rm exW [asc "d"] = .ok ([⟨[1], asc "a"⟩, ⟨[2], asc "d-old"⟩], [asc "d/x"]) := by decide +kernel
example : C06.Canonical exW.index := by unfold C06.Canonical SortedKeys; decide +kernel
example : fileAt exW (cleanPath (asc "./n")) = some (asc "N") ∧ isDirOnDisk exW (cleanPath (asc "./n")) = false := by decide +kernel
end Examples
