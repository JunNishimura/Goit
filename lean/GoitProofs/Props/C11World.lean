import GoitProofs.Props.C11
import GoitProofs.Props.WorldFrame

/-! C11 on the whole-repository model: what an invocation appends to `logs/HEAD` is whole records written by `Reflog.format` with
    the loaded identity, and a log made of such records reads back as exactly those records, oldest first. -/

namespace C11

open Reflog Bytes

theorem parse_append_many (ls : List Bytes) (rs : List Loaded) (recs : List Rec) (h : ∀ r ∈ recs, LineSafe r)
    (hls : parseLines ls = some rs) : parseLines (ls ++ recs.map lineOf) = some (rs ++ recs.map loaded) := by
  induction recs generalizing ls rs with
  | nil => simpa using hls
  | cons r recs ih =>
    have h1 := parse_append ls rs r (h r List.mem_cons_self) hls
    have := ih (ls ++ [lineOf r]) (rs ++ [loaded r]) (fun x hx => h x (List.mem_cons_of_mem _ hx)) h1
    simpa [List.append_assoc] using this

theorem unlines_lineOf (recs : List Rec) : unlines (recs.map lineOf) = (recs.map Reflog.format).flatten := by
  induction recs with
  | nil => rfl
  | cons r recs ih =>
    simp only [List.map_cons, List.flatten_cons, unlines_cons, ih, format_eq]

/-- **Every invocation appends whole records of the loaded identity to `logs/HEAD`, nothing else** (whole-repository model;
    every state, every outcome): there is a list of records — written with the name and e-mail the invocation loaded, with a real
    action kind — such that the new log is the old log followed by exactly their lines -/
theorem world_appends_records (H : HashFn) (w : W.World) (i : W.Inv) :
    ∃ recs : List Rec, (∀ r ∈ recs, W.ByLoaded H w r) ∧
      (W.run H w i).1.logHead.getD [] = w.logHead.getD [] ++ (recs.map Reflog.format).flatten :=
  (W.run_writes H w i).log.recs

/-- **A log extended by records an invocation appends reads back as the old entries followed by the new ones, oldest first** — for records
    whose lines the scanner returns whole (`LineOK`: no line break inside, shorter than 64 KiB, no CR at the end) and that are
    `LineSafe` (no tab in the identity, 20-byte non-zero ids) -/
theorem log_reads_back (old : List Bytes) (rs : List Loaded) (recs : List Rec)
    (hold : ∀ l ∈ old, LineOK l) (hp : parseLines old = some rs)
    (hsafe : ∀ r ∈ recs, LineSafe r) (hok : ∀ r ∈ recs, LineOK (lineOf r)) :
    Reflog.parse (unlines old ++ (recs.map Reflog.format).flatten) = some (rs ++ recs.map loaded) := by
  rw [← unlines_lineOf, ← unlines_append]
  unfold Reflog.parse
  rw [scanLinesE_unlines _ (List.forall_mem_append.2 ⟨hold, List.forall_mem_map.2 hok⟩)]
  exact parse_append_many old rs recs hsafe hp

/-- the journal invariant: `logs/HEAD` is a sequence of whole lines that reads back as `rs` -/
def LogInv (w : W.World) (ls : List Bytes) (rs : List Loaded) : Prop :=
  w.logHead.getD [] = unlines ls ∧ (∀ l ∈ ls, LineOK l) ∧ parseLines ls = some rs

/-- **One invocation keeps the journal readable and only adds at its end**: if the log read back as `rs` before, then for the
    records the invocation appended (`world_appends_records` says there are such records, written with the loaded identity),
    provided their lines are lines the scanner returns whole and they are `LineSafe`, the log reads back afterwards as `rs` followed
    by those records, oldest first — every earlier entry keeps its content and moves up by the number of new records
    (`get_append_zero`, `get_append_succ`). -/
theorem world_log_step (H : HashFn) (w : W.World) (i : W.Inv) (ls : List Bytes) (rs : List Loaded) (recs : List Rec)
    (hinv : LogInv w ls rs)
    (heq : (W.run H w i).1.logHead.getD [] = w.logHead.getD [] ++ (recs.map Reflog.format).flatten)
    (hsafe : ∀ r ∈ recs, LineSafe r) (hok : ∀ r ∈ recs, LineOK (lineOf r)) :
    LogInv (W.run H w i).1 (ls ++ recs.map lineOf) (rs ++ recs.map loaded) ∧
      Reflog.parse ((W.run H w i).1.logHead.getD []) = some (rs ++ recs.map loaded) := by
  obtain ⟨h1, h2, h3⟩ := hinv
  refine ⟨⟨?_, ?_, parse_append_many ls rs recs hsafe h3⟩, ?_⟩
  · rw [heq, h1, unlines_append, unlines_lineOf]
  · exact List.forall_mem_append.2 ⟨h2, List.forall_mem_map.2 hok⟩
  · rw [heq, h1]; exact log_reads_back ls rs recs h2 h3 hsafe hok

/-- the records an invocation appends are lines the scanner returns whole and are `LineSafe` — a condition on the identity, on the
    first line of the message and on the ids written, for whichever decomposition into records of the loaded identity -/
def StepLog (H : HashFn) (w : W.World) (i : W.Inv) : Prop :=
  ∀ recs : List Rec, (∀ r ∈ recs, W.ByLoaded H w r) →
    (W.run H w i).1.logHead.getD [] = w.logHead.getD [] ++ (recs.map Reflog.format).flatten →
    ∀ r ∈ recs, LineSafe r ∧ LineOK (lineOf r)

def StepLogAll (H : HashFn) : W.World → List W.Inv → Prop
  | _, [] => True
  | w, i :: is => StepLog H w i ∧ StepLogAll H (W.run H w i).1 is

/-- **The journal reads back after every history**: from the empty directory, after any sequence of invocations whose appended
    records meet `StepLog`, `logs/HEAD` is a sequence of whole lines and Goit's own reader returns a list of entries for it (never an
    error, never a partial record) -/
theorem world_log_history (H : HashFn) (w : W.World) (is : List W.Inv) (ls : List Bytes) (rs : List Loaded)
    (hinv : LogInv w ls rs) (hsl : StepLogAll H w is) :
    ∃ ls' rs', LogInv (W.runAll H w is) (ls ++ ls') (rs ++ rs') ∧
      Reflog.parse ((W.runAll H w is).logHead.getD []) = some (rs ++ rs') := by
  unfold W.runAll
  induction is generalizing w ls rs with
  | nil =>
    refine ⟨[], [], by simpa using hinv, ?_⟩
    obtain ⟨h1, h2, h3⟩ := hinv
    simp only [List.foldl_nil, List.append_nil]
    rw [h1]; unfold Reflog.parse; rw [scanLinesE_unlines ls h2]; exact h3
  | cons i is ih =>
    obtain ⟨recs, hby, heq⟩ := world_appends_records H w i
    have hs := hsl.1 recs hby heq
    obtain ⟨hinv', _⟩ := world_log_step H w i ls rs recs hinv heq (fun r hr => (hs r hr).1) (fun r hr => (hs r hr).2)
    obtain ⟨ls', rs', h1, h2⟩ := ih (W.run H w i).1 _ _ hinv' hsl.2
    simp only [List.foldl_cons]
    exact ⟨recs.map lineOf ++ ls', recs.map loaded ++ rs', by simpa [List.append_assoc] using h1, by simpa [List.append_assoc] using h2⟩

theorem logInv_empty : LogInv {} [] [] := ⟨rfl, (fun l hl => by cases hl), rfl⟩

/-- the conditions on appended records are met by an ordinary record (first commit by `X <x@example.com>`, message `first`) -/
example : LineSafe ⟨.commit, none, some (List.replicate 20 1), asc "X", asc "x@example.com", 1700000000, 0, asc "first"⟩ ∧
    Bytes.LineOK (lineOf ⟨.commit, none, some (List.replicate 20 1), asc "X", asc "x@example.com", 1700000000, 0, asc "first"⟩) := by
  refine ⟨⟨by decide, by decide, by decide, ?_⟩, ?_⟩
  · intro id hid
    injection hid with hid; subst hid
    exact ⟨by decide, by decide +kernel⟩
  · unfold Bytes.LineOK; decide +kernel

end C11
