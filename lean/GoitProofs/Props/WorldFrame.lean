import GoitProofs.Lemmas.WorldCases
import GoitProofs.Props.C02Cmd

/-! What one invocation can write, in any state and whatever its outcome (`W.run_writes`): only the stores in its row of the
    frame table `W.mayTouch`, only the branch files it names, objects only under the hash of their content and never over an
    existing one, and on `logs/HEAD` only whole records of the identity it loaded, at the end. Each sub-command is a chain of
    primitive writes (`Writes.*`); the frame clauses of the properties, C03 `monotone`, C11 `append` and C10 `others-keep`
    are read off. -/

namespace W

inductive Field where
  | inited | objs | heads | head | index | logHead | logHeads | cfgLocal | cfgGlobal | files | dirs
deriving DecidableEq, Repr

def fieldEq : Field → World → World → Prop
  | .inited, w, w' => w'.inited = w.inited
  | .objs, w, w' => w'.objs = w.objs
  | .heads, w, w' => w'.heads = w.heads
  | .head, w, w' => w'.head = w.head
  | .index, w, w' => w'.index = w.index
  | .logHead, w, w' => w'.logHead = w.logHead
  | .logHeads, w, w' => w'.logHeads = w.logHeads
  | .cfgLocal, w, w' => w'.cfgLocal = w.cfgLocal
  | .cfgGlobal, w, w' => w'.cfgGlobal = w.cfgGlobal
  | .files, w, w' => w'.files = w.files
  | .dirs, w, w' => w'.dirs = w.dirs

open Field in
/-- One row per constructor of `Cmd`, so a row is the union over the flags and outcomes the constructor covers:
    `reset` lists the work tree although only `--hard` reaches the blob writer (per mode: `C08.world_reset_spec`), `switch`
    lists `heads` for `-c`, `branch` lists HEAD and `logs/HEAD` for `-r`. Rows that surprise, each as in cmd/*.go:
    `config --global` creates an empty local file when there is none, hence `cfgLocal`; `update-ref` ends with
    `Head.Update` and `commit` rewrites HEAD last, hence `head`; `restore` and `reset --hard` create missing parent
    directories, hence `dirs`; `rm` removes files and leaves the directories. -/
def mayTouch : Cmd → List Field
  | .init => [inited, head, cfgLocal]
  | .add _ => [objs, index]
  | .rm _ => [index, files]
  | .commit _ => [objs, heads, head, logHead, logHeads]
  | .branch _ _ _ _ => [heads, head, logHead, logHeads]
  | .switch _ _ => [heads, head, logHead, logHeads]
  | .reset _ _ _ _ => [heads, logHead, logHeads, index, files, dirs]
  | .restore false _ => [files, dirs]
  | .restore true _ => [index]
  | .updateRef _ => [heads, head]
  | .config false _ => [cfgLocal]
  | .config true _ => [cfgLocal, cfgGlobal]
  | .writeTree => [objs]
  | .status | .log _ | .reflog | .lsFiles _ | .catFile _ _ _ | .hashObject _ | .revParse _ => []

theorem fieldEq_refl (f : Field) (w : World) : fieldEq f w w := by cases f <;> rfl

theorem fieldEq_trans {f : Field} {a b c : World} (h1 : fieldEq f a b) (h2 : fieldEq f b c) : fieldEq f a c := by
  cases f <;> exact Eq.trans h2 h1

/-- `branch` lists the current branch in every form (`-r` removes its file); `update-ref` names the last segment of its
    path, whatever stands before it; a plain `switch` has `create = []`, and no file is called `[]`. -/
def namedBranches (w : World) : Cmd → List Bytes
  | .commit _ => [headRef w]
  | .reset _ _ _ _ => [headRef w]
  | .branch args _ ren del => args ++ [ren, del, headRef w]
  | .switch _ create => [create]
  | .updateRef args => (args.map fun p => (Bytes.split1 47 p).getLast?.getD [])
  | _ => []

/-- every object file is named by the hash of its content (not `C09.Named`, a path that an argument names) -/
def Named (H : HashFn) (w : World) : Prop := ∀ id c, aget w.objs id = some c → H.sha c = id

theorem named_putObj (H : HashFn) (w : World) (id c : Bytes) (hn : Named H w) (h : H.sha c = id) : Named H (putObj w id c) := by
  intro i x hx
  rw [aget_putObj] at hx
  split at hx
  · next e =>
    subst e
    cases hg : aget w.objs i with
    | none => rw [hg] at hx; cases hx; exact h
    | some c0 => rw [hg] at hx; cases hx; exact hn i c0 hg
  · exact hn i x hx

open Reflog

/-- `lg'` is `lg` followed by the lines of records satisfying `P` -/
inductive LogRel (P : Rec → Prop) : Option Bytes → Option Bytes → Prop
  | refl (lg) : LogRel P lg lg
  | app (lg lg' : Option Bytes) (r : Rec) : P r → LogRel P lg lg' → LogRel P lg (some (lg'.getD [] ++ Reflog.format r))

theorem LogRel.mono {P Q : Rec → Prop} (h : ∀ r, P r → Q r) {a b : Option Bytes} (hr : LogRel P a b) : LogRel Q a b := by
  induction hr with
  | refl => exact LogRel.refl _
  | app lg' r hp _ ih => exact LogRel.app _ lg' r (h r hp) ih

theorem LogRel.trans {P : Rec → Prop} {a b c : Option Bytes} (h1 : LogRel P a b) (h2 : LogRel P b c) : LogRel P a c := by
  induction h2 with
  | refl => exact h1
  | app lg' r hp _ ih => exact LogRel.app _ lg' r hp ih

theorem LogRel.recs {P : Rec → Prop} {a b : Option Bytes} (hr : LogRel P a b) :
    ∃ recs : List Rec, (∀ r ∈ recs, P r) ∧ b.getD [] = a.getD [] ++ (recs.map Reflog.format).flatten := by
  induction hr with
  | refl => exact ⟨[], (fun r hr => by cases hr), by simp⟩
  | app lg' r hp _ ih =>
    obtain ⟨recs, hall, heq⟩ := ih
    refine ⟨recs ++ [r], List.forall_mem_append.2 ⟨hall, List.forall_mem_singleton.2 hp⟩, ?_⟩
    simp only [Option.getD_some, heq, List.map_append, List.flatten_append, List.map_cons, List.map_nil,
        List.flatten_cons, List.flatten_nil, List.append_nil, List.append_assoc]

/-- the records the commands write: the loaded identity, one of the real action kinds -/
def ByIdent (l : Loaded) (r : Rec) : Prop := r.name = userName l ∧ r.email = userEmail l ∧ r.kind ≠ .undefined

/-- the records of the identity the invocation loaded -/
def ByLoaded (H : HashFn) (w : World) (r : Rec) : Prop := ∃ l, load H w = some l ∧ ByIdent l r

/-- `w'` comes from `w` by writes inside the stores `S` and to the branch files `B` only, by storing objects under the hash
    of their content, and by appending to `logs/HEAD` whole records that satisfy `P` -/
structure Writes (H : HashFn) (P : Rec → Prop) (S : List Field) (B : List Bytes) (w w' : World) : Prop where
  frame : ∀ f ∉ S, fieldEq f w w'
  objs : OL w.objs w'.objs
  named : Named H w → Named H w'
  heads : ∀ b ∉ B, aget w'.heads b = aget w.heads b
  log : LogRel P w.logHead w'.logHead

namespace Writes

variable {H : HashFn} {P : Rec → Prop} {S : List Field} {B : List Bytes} {w x y : World}

theorem refl (w : World) : Writes H P S B w w := ⟨fun f _ => fieldEq_refl f w, OL.refl _, id, fun _ _ => rfl, LogRel.refl _⟩

theorem trans (h1 : Writes H P S B w x) (h2 : Writes H P S B x y) : Writes H P S B w y :=
  ⟨fun f hf => fieldEq_trans (h1.frame f hf) (h2.frame f hf), h1.objs.trans h2.objs, h2.named ∘ h1.named,
   fun b hb => (h2.heads b hb).trans (h1.heads b hb), h1.log.trans h2.log⟩

/-- then a write that changes neither objects, branch files nor `logs/HEAD` -/
theorem fieldsOnly (h : Writes H P S B w x) (hf : ∀ f ∉ S, fieldEq f x y)
    (ho : y.objs = x.objs) (hh : y.heads = x.heads) (hl : y.logHead = x.logHead) : Writes H P S B w y :=
  h.trans ⟨hf, ObjsLe.of_eq ho, fun hn id c hc => hn id c (ho ▸ hc), fun b _ => by rw [hh],
    by rw [hl]; exact LogRel.refl _⟩

-- In the lemmas below `cases f <;> first | rfl | exact absurd hS hf` is the frame clause of one primitive: every field but the
-- one it writes is literally the same, and the written one is in `S`, against `hf : f ∉ S`.
theorem putObj (h : Writes H P S B w x) {id c : Bytes} (hid : H.sha c = id) (hS : Field.objs ∈ S := by decide) :
    Writes H P S B w (W.putObj x id c) :=
  h.trans ⟨fun f hf => by cases f <;> first | exact absurd hS hf | exact putObj_field _ (fun _ _ => rfl) x id c,
    putObj_le x id c, fun hn => named_putObj H x id c hn hid, fun b _ => by rw [putObj_heads'],
    by rw [putObj_logHead']; exact LogRel.refl _⟩

theorem putObjs (h : Writes H P S B w x) {os : List (Bytes × Bytes)} (hid : ∀ p ∈ os, H.sha p.2 = p.1) (hS : Field.objs ∈ S := by decide) :
    Writes H P S B w (W.putObjs x os) := by
  unfold W.putObjs
  induction os generalizing x with
  | nil => exact h
  | cons o os ih =>
    exact ih (h.putObj (hid o List.mem_cons_self) hS) (fun p hp => hid p (List.mem_cons_of_mem _ hp))

theorem putBlobs (h : Writes H P S B w x) (ds : List Bytes) (hS : Field.objs ∈ S := by decide) :
    Writes H P S B w (ds.foldl (putBlob H) x) := by
  rw [putBlobs_eq]; exact h.putObjs (fun p hp => by obtain ⟨_, _, rfl⟩ := List.mem_map.mp hp; rfl) hS

theorem setBranch (h : Writes H P S B w x) {n : Bytes} (v : Bytes) (hS : Field.heads ∈ S := by decide) (hB : n ∈ B := by simp) :
    Writes H P S B w { x with heads := aset x.heads n v } :=
  h.trans ⟨fun f hf => by cases f <;> first | rfl | exact absurd hS hf, OL.refl _, id,
    fun b hb => by rw [aget_aset, if_neg (fun e : b = n => hb (e ▸ hB))], LogRel.refl _⟩

theorem delBranch (h : Writes H P S B w x) {n : Bytes} (hS : Field.heads ∈ S := by decide) (hB : n ∈ B := by simp) :
    Writes H P S B w { x with heads := adel x.heads n } :=
  h.trans ⟨fun f hf => by cases f <;> first | rfl | exact absurd hS hf, OL.refl _, id,
    fun b hb => by rw [aget_adel, if_neg (fun e : b = n => hb (e ▸ hB))], LogRel.refl _⟩

theorem logHead (h : Writes H P S B w x) {r : Rec} (hP : P r) (hS : Field.logHead ∈ S := by decide) :
    Writes H P S B w (appendLogHead x (Reflog.format r)) :=
  h.trans ⟨fun f hf => by cases f <;> first | rfl | exact absurd hS hf, OL.refl _, id, fun _ _ => rfl, LogRel.app _ _ r hP (LogRel.refl _)⟩

theorem setHead (h : Writes H P S B w x) (b : Bytes) (hS : Field.head ∈ S := by decide) : Writes H P S B w (W.setHead x b) :=
  h.fieldsOnly (fun f hf => by cases f <;> first | rfl | exact absurd hS hf) rfl rfl rfl

theorem logBranch (h : Writes H P S B w x) (b line : Bytes) (hS : Field.logHeads ∈ S := by decide) :
    Writes H P S B w (appendLogBranch x b line) :=
  h.fieldsOnly (fun f hf => by cases f <;> first | rfl | exact absurd hS hf) rfl rfl rfl

theorem delLog (h : Writes H P S B w x) (b : Bytes) (hS : Field.logHeads ∈ S := by decide) :
    Writes H P S B w { x with logHeads := adel x.logHeads b } :=
  h.fieldsOnly (fun f hf => by cases f <;> first | rfl | exact absurd hS hf) rfl rfl rfl

theorem setIndex (h : Writes H P S B w x) (v : Option (List Entry)) (hS : Field.index ∈ S := by decide) :
    Writes H P S B w { x with index := v } :=
  h.fieldsOnly (fun f hf => by cases f <;> first | rfl | exact absurd hS hf) rfl rfl rfl

theorem setIndexIfChanged (h : Writes H P S B w x) (o n : List Entry) (hS : Field.index ∈ S := by decide) :
    Writes H P S B w (W.setIndexIfChanged x o n) := by
  rcases setIndexIfChanged_cases x o n with e | e <;> rw [e]
  · exact h
  · exact h.setIndex _ hS

theorem setFiles (h : Writes H P S B w x) (v : List (Bytes × Bytes)) (hS : Field.files ∈ S := by decide) :
    Writes H P S B w { x with files := v } :=
  h.fieldsOnly (fun f hf => by cases f <;> first | rfl | exact absurd hS hf) rfl rfl rfl

theorem writeEntries (h : Writes H P S B w x) (es : List Entry) (hS : Field.files ∈ S := by decide) (hS' : Field.dirs ∈ S := by decide) :
    Writes H P S B w (W.writeEntries H x es).2.2 :=
  h.fieldsOnly (fun f hf => by
      cases f <;> first | exact absurd hS hf | exact absurd hS' hf | exact writeEntries_field H _ (fun _ _ _ => rfl) x es)
    (writeEntries_objs H x es) (writeEntries_heads H x es) (writeEntries_logHead' H x es)

theorem restoreWorkP (h : Writes H P S B w x) (idx : List Entry) (args : List Bytes) (hS : Field.files ∈ S := by decide) (hS' : Field.dirs ∈ S := by decide) :
    Writes H P S B w (W.restoreWorkP H idx x args).1 := by
  obtain ⟨as, _, e, _⟩ := restoreWorkP_eq H idx x args
  rw [e]; exact h.writeEntries _ hS hS'

theorem get (h : Writes H P S B w x) (f : Field) (hf : f ∉ S := by decide) : fieldEq f w x := h.frame f hf

theorem mono {Q : Rec → Prop} (h : Writes H P S B w x) (hP : ∀ r, P r → Q r) : Writes H Q S B w x :=
  ⟨h.frame, h.objs, h.named, h.heads, h.log.mono hP⟩

theorem logRec {l : Loaded} (h : Writes H (ByIdent l) S B w x) (k : RecKind) (f t : Option Bytes) (tm tz : Int) (m : Bytes)
    (hk : k ≠ .undefined := by decide) (hS : Field.logHead ∈ S := by decide) :
    Writes H (ByIdent l) S B w (appendLogHead x (recLine l k f t tm tz m)) :=
  h.logHead (r := ⟨k, f, t, userName l, userEmail l, tm, tz, m⟩) ⟨rfl, rfl, hk⟩ hS

end Writes

section
variable (H : HashFn) (w : World) (l : Loaded) {P : Rec → Prop}

/-! The record predicate of `Writes`: the reference-moving commands log under the loaded identity (`ByIdent l`); the others append
    nothing, so any `P` does. -/

theorem addCmd_writes (args : List Bytes) : Writes H P [.objs, .index] [] w (addCmd H w l args).1 := by
  rcases addCmd_cases H w l args with ⟨_, _, e⟩ | ⟨_, _, e⟩ <;> rw [e]
  · exact .refl w
  · exact ((Writes.refl w).putBlobs _).setIndexIfChanged _ _

theorem rmCmd_writes (args : List Bytes) : Writes H P [.index, .files] [] w (rmCmd w l args).1 := by
  rcases rmCmd_cases w l args with ⟨_, _, e⟩ | ⟨_, e⟩ <;> rw [e]
  · exact .refl w
  · exact ((Writes.refl w).setFiles _).setIndexIfChanged _ _

theorem restoreCmd_writes (staged : Bool) (args : List Bytes) :
    Writes H P (if staged then [.index] else [.files, .dirs]) [] w (restoreCmd H w l staged args).1 := by
  generalize hr : restoreCmd H w l staged args = r
  rw [restoreCmd_eq] at hr; split at hr <;> subst hr
  · exact .refl w
  · exact (Writes.refl w).restoreWorkP _ _
  · exact (Writes.refl w).setIndexIfChanged _ _
  · exact .refl w
  · exact .refl w

theorem configCmd_writes (g : Bool) (args : List Bytes) :
    Writes H P (if g then [.cfgLocal, .cfgGlobal] else [.cfgLocal]) [] w (configCmd w g args).1 := by
  rcases configCmd_cases w g args with e | ⟨_, _, _, _, _, e⟩ <;> rw [e]
  · exact .refl w
  · cases g <;> cases w.cfgLocal <;>
      exact (Writes.refl w).fieldsOnly (fun f hf => by cases f <;> first | rfl | exact absurd (by decide) hf) rfl rfl rfl

theorem initCmd_writes : Writes H P [.inited, .head, .cfgLocal] [] w (initCmd w).1 := by
  rcases initCmd_cases w with e | e | e <;> rw [e]
  · exact .refl w
  · exact .refl w
  · exact (Writes.refl w).fieldsOnly (fun f hf => by cases f <;> first | rfl | exact absurd (by decide) hf) rfl rfl rfl

theorem branchCmd_writes (args : List Bytes) (list : Bool) (ren del : Bytes) (tz : Int) (ts : List Int) :
    Writes H (ByIdent l) [.heads, .head, .logHead, .logHeads] (args ++ [ren, del, l.ref]) w
      (branchCmd w l args list ren del tz ts).1 := by
  rcases branchCmd_cases w l args list ren del tz ts with e | ⟨_, e⟩ | ⟨n, rfl, e⟩ | e | e <;> rw [e]
  · exact .refl w
  · exact .refl w
  · rcases branchCreate_cases w l n tz ts with e | ⟨_, _, _, _, _, e⟩ <;> rw [e]
    · exact .refl w
    · exact ((Writes.refl w).setBranch _).logBranch _ _
  · rcases branchRename_cases w l ren tz ts with e | e | ⟨_, _, _, _, _, e⟩ <;> rw [e]
    · exact .refl w
    · exact .refl w
    · exact ((((((((Writes.refl w).setBranch _).delBranch).setHead _).logRec _ _ _ _ _ _).logRec _ _ _ _ _ _).delLog _).logBranch _ _).logBranch _ _
  · rcases branchDelete_cases w l del with e | e | ⟨_, _, e⟩ <;> rw [e]
    · exact .refl w
    · exact .refl w
    · exact ((Writes.refl w).delBranch).delLog _

theorem switchCmd_writes (args : List Bytes) (create : Bytes) (tz : Int) (ts : List Int) :
    Writes H (ByIdent l) [.heads, .head, .logHead, .logHeads] [create] w (switchCmd H w l args create tz ts).1 := by
  rcases switchCmd_cases H w l args create tz ts with e | ⟨n, e⟩ | e <;> rw [e]
  · exact .refl w
  · rcases switchTo_cases H w l n tz ts with e | e | ⟨_, _, _, _, _, e⟩ <;> rw [e]
    · exact .refl w
    · exact .refl w
    · exact ((Writes.refl w).setHead _).logRec _ _ _ _ _ _
  · rcases switchCreate_cases w l create tz ts with e | e | ⟨_, _, _, _, _, e⟩ <;> rw [e]
    · exact .refl w
    · exact .refl w
    · exact ((((Writes.refl w).setBranch _).setHead _).logRec _ _ _ _ _ _).logBranch _ _

theorem updateRefCmd_writes (args : List Bytes) :
    Writes H (ByIdent l) [.heads, .head] (args.map fun p => (Bytes.split1 47 p).getLast?.getD []) w (updateRefCmd H w l args).1 := by
  rcases updateRefCmd_cases H w l args with e | e | ⟨path, hs, id, d, rfl, _, _, _, e⟩ <;> rw [e]
  · exact .refl w
  · exact .refl w
  · rw [updateRefTo_eq]; split
    · exact .refl w
    · exact (Writes.refl w).setBranch _
    · exact .refl w
    · exact ((Writes.refl w).setBranch _).setHead _

theorem resetCmd_writes (soft mixed hard : Bool) (args : List Bytes) (tz : Int) (ts : List Int) :
    Writes H (ByIdent l) [.heads, .logHead, .logHeads, .index, .files, .dirs] [l.ref] w
      (resetCmd H w l soft mixed hard args tz ts).1 := by
  rcases resetCmd_cases H w l soft mixed hard args tz ts with e | ⟨s, h, arg, t, prev, _, _, _, e⟩ <;> rw [e]
  · exact .refl w
  · have logged : Writes H (ByIdent l) [.heads, .logHead, .logHeads, .index, .files, .dirs] [l.ref] w (resetLogged w l arg t prev tz ts) :=
      (((Writes.refl w).setBranch _).logRec _ _ _ _ _ _).logBranch _ _
    rw [resetTo_eq]; split
    · exact .refl w
    · exact logged
    · exact logged.setIndex _
    · exact (logged.setIndex _).writeEntries _
    · exact logged

theorem trees_writes {P : Rec → Prop} {S : List Field} {B : List Bytes} {x : World} (h : Writes H P S B w x) (es : List Entry)
    (hS : Field.objs ∈ S := by decide) : Writes H P S B w (putObjs x (TreeBuild.writeTree H es).writes.reverse) :=
  h.putObjs (fun p hp => (C05.writes_id_eq H (TreeBuild.fuelFor es) es p (by simpa [TreeBuild.writeTree] using hp)).symm) hS

theorem commitCmd_writes (msg : Bytes) (tz : Int) (ts : List Int) :
    Writes H (ByIdent l) [.objs, .heads, .head, .logHead, .logHeads] [l.ref] w (commitCmd H w l msg tz ts).1 := by
  rcases commitCmd_cases H w l msg tz ts with ⟨_, e⟩ | ⟨_, e⟩ | ⟨snap, _, ⟨_, _, e⟩ | ⟨_, _, e⟩ | ⟨id, data, hcc, e⟩⟩ <;> rw [e]
  · exact .refl w
  · exact .refl w
  · exact .refl w
  · exact trees_writes H w (.refl w) l.idx
  · obtain ⟨_, _, _, _, _, _, hid, _⟩ := C02.commitCmd_ok H _ id data hcc
    have stored : Writes H (ByIdent l) [.objs, .heads, .head, .logHead, .logHeads] [l.ref] w (commitStore H w l.idx id data) :=
      (trees_writes H w (.refl w) l.idx).putObj (by rw [hid]; rfl)
    have logged : Writes H (ByIdent l) [.objs, .heads, .head, .logHead, .logHeads] [l.ref] w
        (commitLogged (commitStore H w l.idx id data) l id msg tz ts) := ((stored.setBranch _).logRec _ _ _ _ _ _).logBranch _ _
    rw [commitWrite_eq]; split
    · exact stored
    · exact logged
    · exact logged.setHead _

end

theorem run_writes (H : HashFn) (w : World) (i : Inv) :
    Writes H (ByLoaded H w) (mayTouch i.cmd) (namedBranches w i.cmd) w (run H w i).1 := by
  refine run_elim (motive := fun r => Writes H _ _ _ w r.1) H w i (fun _ => .refl w) (fun _ hc => ?_) (fun l _ _ hl => ?_)
  · rw [hc]; exact initCmd_writes H w
  · have hr := load_ref H w l hl
    have up : ∀ {S B x}, Writes H (ByIdent l) S B w x → Writes H (ByLoaded H w) S B w x :=
      fun h => h.mono (fun r hr => ⟨l, hl, hr⟩)
    obtain ⟨cmd, tz, ts⟩ := i
    cases cmd with
    | add args => exact addCmd_writes H w l args
    | rm args => exact rmCmd_writes H w l args
    | commit msg => show Writes H _ _ [headRef w] w _; rw [← hr]; exact up (commitCmd_writes H w l msg tz ts)
    | branch args list ren del =>
      show Writes H _ _ (args ++ [ren, del, headRef w]) w _; rw [← hr]; exact up (branchCmd_writes H w l args list ren del tz ts)
    | switch args create => exact up (switchCmd_writes H w l args create tz ts)
    | reset s m h args => show Writes H _ _ [headRef w] w _; rw [← hr]; exact up (resetCmd_writes H w l s m h args tz ts)
    | restore staged args =>
      cases staged
      · exact restoreCmd_writes H w l false args
      · exact restoreCmd_writes H w l true args
    | updateRef args => exact up (updateRefCmd_writes H w l args)
    | config g args =>
      cases g
      · exact configCmd_writes H w false args
      · exact configCmd_writes H w true args
    | writeTree => show Writes H _ [.objs] _ w _; exact trees_writes H w (.refl w) l.idx
    | _ => exact .refl w

/-- **Frame table.** A sub-command leaves every store outside its row of `mayTouch` exactly as it was: in any
    state, with any arguments, whether it succeeds, is refused, or fails half-way. -/
theorem frame (H : HashFn) (w : World) (i : Inv) (f : Field) (hf : f ∉ mayTouch i.cmd) : fieldEq f w (run H w i).1 :=
  (run_writes H w i).frame f hf

theorem runAll_grows (H : HashFn) (w : World) (is : List Inv) :
    OL w.objs (runAll H w is).objs ∧ w.logHead.getD [] <+: (runAll H w is).logHead.getD [] := by
  unfold runAll
  induction is generalizing w with
  | nil => exact ⟨OL.refl _, List.prefix_refl _⟩
  | cons i is ih =>
    obtain ⟨_, _, he⟩ := (run_writes H w i).log.recs
    exact ⟨(run_writes H w i).objs.trans (ih _).1, (he ▸ List.prefix_append _ _).trans (ih _).2⟩

end W

namespace C02

/-- `commit` (successful or not) leaves the staging area, the working tree and the configuration alone -/
theorem world_commit_frame (H : HashFn) (w : W.World) (msg : Bytes) (tz : Int) (ts : List Int) :
    let w' := (W.run H w ⟨.commit msg, tz, ts⟩).1
    w'.index = w.index ∧ w'.files = w.files ∧ w'.dirs = w.dirs ∧ w'.cfgLocal = w.cfgLocal ∧ w'.cfgGlobal = w.cfgGlobal :=
  ⟨W.frame H w _ .index (by simp [W.mayTouch]), W.frame H w _ .files (by simp [W.mayTouch]), W.frame H w _ .dirs (by simp [W.mayTouch]),
   W.frame H w _ .cfgLocal (by simp [W.mayTouch]), W.frame H w _ .cfgGlobal (by simp [W.mayTouch])⟩

end C02

namespace C04

/-- `add` never writes a work file, moves no branch, HEAD or log; `rm` moves no branch, HEAD or log and stores nothing -/
theorem world_add_frame (H : HashFn) (w : W.World) (args : List Bytes) (tz : Int) (ts : List Int) :
    let w' := (W.run H w ⟨.add args, tz, ts⟩).1
    w'.files = w.files ∧ w'.dirs = w.dirs ∧ w'.heads = w.heads ∧ w'.head = w.head ∧ w'.logHead = w.logHead :=
  ⟨W.frame H w _ .files (by simp [W.mayTouch]), W.frame H w _ .dirs (by simp [W.mayTouch]), W.frame H w _ .heads (by simp [W.mayTouch]),
   W.frame H w _ .head (by simp [W.mayTouch]), W.frame H w _ .logHead (by simp [W.mayTouch])⟩

theorem world_rm_frame (H : HashFn) (w : W.World) (args : List Bytes) (tz : Int) (ts : List Int) :
    let w' := (W.run H w ⟨.rm args, tz, ts⟩).1
    w'.objs = w.objs ∧ w'.heads = w.heads ∧ w'.head = w.head ∧ w'.logHead = w.logHead ∧ w'.dirs = w.dirs :=
  ⟨W.frame H w _ .objs (by simp [W.mayTouch]), W.frame H w _ .heads (by simp [W.mayTouch]), W.frame H w _ .head (by simp [W.mayTouch]),
   W.frame H w _ .logHead (by simp [W.mayTouch]), W.frame H w _ .dirs (by simp [W.mayTouch])⟩

end C04

namespace C09

/-- `restore` changes only the working tree, `restore --staged` only the staging area -/
theorem world_restore_frame (H : HashFn) (w : W.World) (args : List Bytes) (tz : Int) (ts : List Int) :
    let w' := (W.run H w ⟨.restore false args, tz, ts⟩).1
    w'.index = w.index ∧ w'.objs = w.objs ∧ w'.heads = w.heads ∧ w'.head = w.head :=
  ⟨W.frame H w _ .index (by simp [W.mayTouch]), W.frame H w _ .objs (by simp [W.mayTouch]), W.frame H w _ .heads (by simp [W.mayTouch]),
   W.frame H w _ .head (by simp [W.mayTouch])⟩

theorem world_restore_staged_frame (H : HashFn) (w : W.World) (args : List Bytes) (tz : Int) (ts : List Int) :
    let w' := (W.run H w ⟨.restore true args, tz, ts⟩).1
    w'.files = w.files ∧ w'.dirs = w.dirs ∧ w'.objs = w.objs ∧ w'.heads = w.heads ∧ w'.head = w.head :=
  ⟨W.frame H w _ .files (by simp [W.mayTouch]), W.frame H w _ .dirs (by simp [W.mayTouch]), W.frame H w _ .objs (by simp [W.mayTouch]),
   W.frame H w _ .heads (by simp [W.mayTouch]), W.frame H w _ .head (by simp [W.mayTouch])⟩

end C09

namespace C18

/-- the read-only commands change nothing at all -/
theorem world_readers_change_nothing (H : HashFn) (w : W.World) (i : W.Inv) (h : W.mayTouch i.cmd = []) (f : W.Field) :
    W.fieldEq f w (W.run H w i).1 := W.frame H w i f (by simp [h])

end C18

namespace C20

/-- only `config` and `init` ever write a configuration file -/
theorem world_only_config_writes_config (H : HashFn) (w : W.World) (i : W.Inv)
    (h : W.Field.cfgLocal ∉ W.mayTouch i.cmd) :
    (W.run H w i).1.cfgLocal = w.cfgLocal ∧ (W.run H w i).1.cfgGlobal = w.cfgGlobal := by
  -- in the frame table the global file stands only in a row that holds the local one too (`config --global`)
  refine ⟨W.frame H w i .cfgLocal h, W.frame H w i .cfgGlobal fun hg => h ?_⟩
  obtain ⟨cmd, tz, ts⟩ := i
  cases cmd with
  | config g a => cases g <;> simp [W.mayTouch]
  | restore st a => cases st <;> simp [W.mayTouch] at hg
  | _ => simp [W.mayTouch] at hg

end C20

namespace C03

/-- one invocation of any sub-command, in any state, with any outcome: every stored object is still
    stored afterwards, under the same id, with the same bytes -/
theorem world_objects_monotone (H : HashFn) (w : W.World) (i : W.Inv) (id c : Bytes)
    (h : W.aget w.objs id = some c) : W.aget (W.run H w i).1.objs id = some c :=
  (W.run_writes H w i).objs id c h

/-- after every history every object stored at its start is still stored, under the same id, with the same bytes -/
theorem world_history_objects_monotone (H : HashFn) (w : W.World) (is : List W.Inv) (id c : Bytes)
    (h : W.aget w.objs id = some c) : W.aget (W.runAll H w is).objs id = some c :=
  (W.runAll_grows H w is).1 id c h

end C03

namespace C11

/-- `logs/HEAD` is append-only through every invocation: the bytes that were there are a prefix of the bytes
    that are there afterwards (for commands that do not log, and for refused ones, the file is unchanged) -/
theorem world_log_prefix (H : HashFn) (w : W.World) (i : W.Inv) :
    w.logHead.getD [] <+: (W.run H w i).1.logHead.getD [] := (W.runAll_grows H w [i]).2

theorem world_history_log_prefix (H : HashFn) (w : W.World) (is : List W.Inv) :
    w.logHead.getD [] <+: (W.runAll H w is).logHead.getD [] := (W.runAll_grows H w is).2

end C11

namespace C10

/-- **others keep their commits**, at the level of the bytes of every file in `refs/heads`, for every
    sub-command, state and outcome -/
theorem world_others_keep (H : HashFn) (w : W.World) (i : W.Inv) (b : Bytes) (hb : b ∉ W.namedBranches w i.cmd) :
    W.aget (W.run H w i).1.heads b = W.aget w.heads b :=
  (W.run_writes H w i).heads b hb

end C10
