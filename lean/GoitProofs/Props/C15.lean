import GoitModel.Effects

/-! # C15 — Crash consistency (order of modifications), and C16's propagation model

A crash between two file-system modifications leaves the state `crash s es k = run s (es.take k)`.
For the modification lists of the commands as the (repaired) code performs them (`GoitModel/Effects.lean`,
compared with the traced system calls of the real binary on every run): a file only ever *replaced by
rename* holds its old or its complete new content at every crash point; every object a ref is about to
name is completely written before the ref changes; commands that touch no reference leave every one alone;
commands that move references without `commit` leave HEAD naming a branch that holds a full id. -/

namespace C15

open Eff

/-- effects that do not touch role `r` -/
def Untouched (r : Role) : E → Prop
  | .create x => x ≠ r
  | .write x _ => x ≠ r
  | .append x _ => x ≠ r
  | .rename a b => a ≠ r ∧ b ≠ r
  | .remove x => x ≠ r

-- `simp [Untouched]` on `∀ e ∈ [..], Untouched r e` unfolds to a `match` on the bound `e` before the list is taken apart,
-- which is slow to simplify; with the equations, and the list split first, it is not
attribute [local simp] Untouched.eq_1 Untouched.eq_2 Untouched.eq_3 Untouched.eq_4 Untouched.eq_5
attribute [local simp ↓] List.forall_mem_cons

theorem apply_untouched (s : FS) (e : E) (r : Role) (h : Untouched r e) : apply s e r = s r := by
  cases e with
  | rename a b => simp [apply, Ne.symm h.1, Ne.symm h.2]
  | _ => simp [apply, Ne.symm h]

theorem run_append (s : FS) (a b : List E) : run s (a ++ b) = run (run s a) b := List.foldl_append

theorem crash_append (s : FS) (a b : List E) (k : Nat) : crash s (a ++ b) k = crash (crash s a k) b (k - a.length) := by
  simp only [crash, List.take_append, run_append]

theorem crash_append_left {s : FS} (a : List E) {b : List E} {k : Nat} (hk : k ≤ a.length) : crash s (a ++ b) k = crash s a k := by
  unfold crash; rw [List.take_append_of_le_length hk]

theorem crash_ge (s : FS) (a : List E) (k : Nat) (hk : a.length ≤ k) : crash s a k = run s a := by
  unfold crash; rw [List.take_of_length_le hk]

theorem run_untouched (s : FS) (es : List E) (r : Role) (h : ∀ e ∈ es, Untouched r e) : run s es r = s r := by
  induction es generalizing s with
  | nil => rfl
  | cons e es ih =>
    rw [List.forall_mem_cons] at h
    exact (ih (apply s e) h.2).trans (apply_untouched s e r h.1)

theorem crash_untouched {s : FS} {es : List E} {k : Nat} {r : Role} (h : ∀ e ∈ es, Untouched r e) : crash s es k r = s r :=
  run_untouched _ _ _ fun e he => h e (List.mem_of_mem_take he)

theorem untouched_replace {r : Role} {tmp : String} {dst : Role} {data : Bytes} (h1 : r ≠ dst) (h2 : r ≠ .tmp tmp) :
    ∀ e ∈ replace tmp dst data, Untouched r e := by
  unfold replace
  simp [Ne.symm h1, Ne.symm h2]

/-- `WriteFileAtomic` seen from its destination: nothing until the rename (the third modification), then everything -/
theorem crash_replace (s : FS) (tmp : String) (dst : Role) (data : Bytes) (hne : Role.tmp tmp ≠ dst) (k : Nat) :
    crash s (replace tmp dst data) k dst = if k < 3 then s dst else some data := by
  split
  next hk =>
    exact (congrFun (crash_append_left [.create (.tmp tmp), .write (.tmp tmp) data] (b := [_]) (Nat.le_of_lt_succ hk)) dst).trans
      (crash_untouched (by simp [hne]))
  next hk =>
    rw [crash_ge _ _ _ (Nat.le_of_not_lt hk)]
    simp [replace, run, apply]

theorem crash_at_replace (s : FS) (pre post : List E) (tmp : String) (dst : Role) (data : Bytes) (hne : Role.tmp tmp ≠ dst)
    (hpre : ∀ e ∈ pre, Untouched dst e) (hpost : ∀ e ∈ post, Untouched dst e) (k : Nat) :
    crash s (pre ++ replace tmp dst data ++ post) k dst = if k < pre.length + 3 then s dst else some data := by
  rw [crash_append, crash_untouched hpost, crash_append, crash_replace _ _ _ _ hne, crash_untouched hpre]
  simp only [show k - pre.length < 3 ↔ k < pre.length + 3 by omega]

theorem old_or_new {s : FS} {pre post : List E} {tmp : String} {dst : Role} {data : Bytes} (hne : Role.tmp tmp ≠ dst)
    (hpre : ∀ e ∈ pre, Untouched dst e) (hpost : ∀ e ∈ post, Untouched dst e) (k : Nat) :
    crash s (pre ++ replace tmp dst data ++ post) k dst = s dst ∨
    crash s (pre ++ replace tmp dst data ++ post) k dst = some data := by
  rw [crash_at_replace s pre post tmp dst data hne hpre hpost]
  split
  · exact Or.inl rfl
  · exact Or.inr rfl

/-- **Atomic replacement**: at every crash point inside `WriteFileAtomic`, the destination file holds
    its old content or the complete new content — never an empty or half-written file. -/
theorem replace_old_or_new (s : FS) (tmp : String) (dst : Role) (data : Bytes) (hne : Role.tmp tmp ≠ dst) (k : Nat) :
    crash s (replace tmp dst data) k dst = s dst ∨ crash s (replace tmp dst data) k dst = some data :=
  old_or_new (pre := []) (post := []) hne (by simp) (by simp) k

theorem forall_mem_flatten_map {α β} {f : α → List β} {l : List α} {P : β → Prop} (h : ∀ a ∈ l, ∀ b ∈ f a, P b) :
    ∀ b ∈ (l.map f).flatten, P b :=
  List.forall_mem_flatten.2 (List.forall_mem_map.2 h)

theorem prefix_complete {α} {a b : List α} {k : Nat} {x : α} (hx : x ∈ (a ++ b).take k) (hna : x ∉ a) :
    ∀ y ∈ a, y ∈ (a ++ b).take k := by
  intro y hy
  by_cases hk : k ≤ a.length
  · rw [List.take_append_of_le_length hk] at hx
    exact absurd (List.mem_of_mem_take hx) hna
  · rw [List.take_append, List.take_of_length_le (by omega)]
    exact List.mem_append_left _ hy

/-- **Objects before refs** (`commit`): at every crash point of a commit, if the branch file has been
    switched to the new commit (the rename happened), then every tree and the commit object have been
    created *and completely written* before. -/
theorem commit_objects_before_ref (objs : List (Bytes × Bytes)) (b cid line : Bytes) (k : Nat)
    (h : E.rename (.tmp "branch") (.branch b) ∈ (commit objs b cid line).take k) :
    ∀ o ∈ objs, E.write (.object o.1) o.2 ∈ (commit objs b cid line).take k := by
  intro o ho
  simp only [commit, List.append_assoc] at h ⊢
  refine prefix_complete h (forall_mem_flatten_map (P := (· ≠ _)) (by simp [putObject]) _ · rfl) _ ?_
  exact List.mem_flatten.2 ⟨_, List.mem_map.2 ⟨o, ho, rfl⟩, by simp [putObject]⟩

/-- **Blob before index** (`add`): when the index is replaced, the blob it names is completely written -/
theorem add_blob_before_index (bid blob idx : Bytes) (k : Nat)
    (h : E.rename (.tmp "index") .index ∈ (addFile bid blob idx).take k) :
    E.write (.object bid) blob ∈ (addFile bid blob idx).take k :=
  prefix_complete h (by simp [putObject]) _ (by simp [putObject])

/-- **Each branch holds its old or its new commit at every crash point of `commit`** — nothing else -/
theorem commit_branch_old_or_new (s : FS) (objs : List (Bytes × Bytes)) (b cid line : Bytes) (k : Nat) :
    crash s (commit objs b cid line) k (.branch b) = s (.branch b) ∨
    crash s (commit objs b cid line) k (.branch b) = some (hashStr cid) := by
  rw [commit, List.append_assoc]
  exact old_or_new (by simp)
    (forall_mem_flatten_map (by simp [putObject]))
    (List.forall_mem_append.2 ⟨by simp, untouched_replace (by simp) (by simp)⟩) k

/-! ### `rm`, `restore --staged`, `config`, `branch -d`, `init`: what they do not name stays as it was at every crash point -/

theorem untouched_setIndex {r : Role} {f : Bytes} (hr : (∃ i, r = .object i) ∨ (∃ b, r = .branch b) ∨ r = .head) :
    ∀ e ∈ setIndex f, Untouched r e := by
  apply untouched_replace <;> rcases hr with ⟨i, rfl⟩ | ⟨b, rfl⟩ | rfl <;> simp

/-- `rm` killed anywhere: every object, every branch and HEAD are exactly as before -/
theorem rm_keeps_refs (s : FS) (ps : List (Bytes × Bytes)) (k : Nat) (r : Role)
    (hr : (∃ i, r = .object i) ∨ (∃ b, r = .branch b) ∨ r = .head) :
    crash s (rmFiles ps) k r = s r := by
  refine crash_untouched (forall_mem_flatten_map fun p _ => List.forall_mem_cons.2 ⟨?_, untouched_setIndex hr⟩)
  rcases hr with ⟨i, rfl⟩ | ⟨b, rfl⟩ | rfl <;> simp

/-- `restore --staged` killed anywhere: every object, every branch and HEAD are exactly as before -/
theorem restoreStaged_keeps_refs (s : FS) (fs : List Bytes) (k : Nat) (r : Role)
    (hr : (∃ i, r = .object i) ∨ (∃ b, r = .branch b) ∨ r = .head) :
    crash s (restoreStaged fs) k r = s r :=
  crash_untouched (forall_mem_flatten_map fun _ _ => untouched_setIndex hr)

/-- `config` killed anywhere touches nothing but the config file and its temporary file -/
theorem config_keeps_all (s : FS) (data : Bytes) (k : Nat) (r : Role) (h1 : r ≠ .config) (h2 : r ≠ .tmp "config") :
    crash s (replace "config" .config data) k r = s r :=
  crash_untouched (untouched_replace h1 h2)

/-- `branch -d old` killed anywhere: every other branch, HEAD and every object are as before -/
theorem branchDelete_keeps_others (s : FS) (old : Bytes) (k : Nat) (r : Role)
    (hr : (∃ i, r = .object i) ∨ (∃ b, b ≠ old ∧ r = .branch b) ∨ r = .head ∨ r = .index) :
    crash s (branchDelete old) k r = s r := by
  apply crash_untouched
  unfold branchDelete
  rcases hr with ⟨i, rfl⟩ | ⟨b, hb, rfl⟩ | rfl | rfl <;> simp
  exact Ne.symm hb

/-- an interrupted `init` never leaves a `.goit`: the directory appears only with the last step, complete -/
theorem init_all_or_nothing (s : FS) (k : Nat) (hk : k < init.length) : crash s init k .repoDir = s .repoDir := by
  -- `init` has four modifications and the rename that makes `.goit` appear is the last
  rw [show init = init.take 3 ++ init.drop 3 from rfl, crash_append_left (init.take 3) (Nat.le_of_lt_succ hk)]
  exact crash_untouched (by simp [init])

/-- HEAD names branch `b`, whose file holds the full id `id` -/
def HeadNames (s : FS) (b id : Bytes) : Prop := s .head = some (Head.render b) ∧ s (.branch b) = some (hashStr id)

/-- shared by `branch -r` and `switch -c`. Nothing is asked of what `rest` does to the old branch file (`branch -r`
    removes it): by then HEAD has moved. -/
theorem head_after_branch (s : FS) (old new id : Bytes) (rest : List E) (k : Nat) (hne : old ≠ new) (h0 : HeadNames s old id)
    (hrest : ∀ e ∈ rest, Untouched .head e ∧ Untouched (.branch new) e) :
    HeadNames (crash s (setBranch new id ++ setHead new ++ rest) k) old id ∨
    HeadNames (crash s (setBranch new id ++ setHead new ++ rest) k) new id := by
  obtain ⟨hh, hb⟩ := h0
  -- HEAD moves with the sixth modification; the new branch file is complete from the third on
  have hhead := crash_at_replace s (setBranch new id) rest "HEAD" .head (Head.render new) (by simp)
    (untouched_replace (by simp) (by simp)) (fun e he => (hrest e he).1) k
  have hnew := crash_at_replace s [] (setHead new ++ rest) "branch" (.branch new) (hashStr id) (by simp) (by simp)
    (List.forall_mem_append.2 ⟨untouched_replace (by simp) (by simp), fun e he => (hrest e he).2⟩) k
  rw [List.nil_append, ← List.append_assoc] at hnew
  unfold HeadNames
  by_cases hk : k < 6
  · left
    refine ⟨hhead.trans ((if_pos hk).trans hh), ?_⟩
    -- the crash point lies inside the two replacements, which leave the old branch file alone
    rw [crash_append_left _ (Nat.le_of_lt hk)]
    exact (crash_untouched (List.forall_mem_append.2
      ⟨untouched_replace (by simp [hne]) (by simp), untouched_replace (by simp) (by simp)⟩)).trans hb
  · exact Or.inr ⟨hhead.trans (if_neg hk), hnew.trans (if_neg (by simp only [List.length_nil]; omega))⟩

/-- **`branch -r` never leaves HEAD naming a branch that does not exist**: at every crash point HEAD names the old name (still
    holding the commit) or the new name (already holding it) -/
theorem rename_head_always_names (s : FS) (old new id : Bytes) (logs : List E) (k : Nat) (hne : old ≠ new)
    (h0 : HeadNames s old id)
    (hlogs : ∀ e ∈ logs, Untouched .head e ∧ Untouched (.branch old) e ∧ Untouched (.branch new) e) :
    HeadNames (crash s (branchRename old new id logs) k) old id ∨ HeadNames (crash s (branchRename old new id logs) k) new id := by
  rw [branchRename, List.append_assoc]
  refine head_after_branch s old new id _ k hne h0 (List.forall_mem_cons.2 ⟨?_, fun e he => ⟨(hlogs e he).1, (hlogs e he).2.2⟩⟩)
  simp [hne]

/-- **`switch -c`**: at every crash point HEAD names the old branch (untouched) or the new one, which then already holds the
    commit completely -/
theorem switchCreate_head_always_names (s : FS) (cur n id l1 l2 : Bytes) (k : Nat) (hne : cur ≠ n) (h0 : HeadNames s cur id) :
    HeadNames (crash s (switchCreate n id l1 l2) k) cur id ∨ HeadNames (crash s (switchCreate n id l1 l2) k) n id :=
  head_after_branch s cur n id _ k hne h0 (by simp)

theorem setBranch_first {s : FS} {b id : Bytes} {post : List E} {k : Nat}
    (hpost : ∀ r : Role, ((∃ n, r = .branch n) ∨ r = .head) → ∀ e ∈ post, Untouched r e) :
    (crash s (setBranch b id ++ post) k (.branch b) = s (.branch b) ∨
      crash s (setBranch b id ++ post) k (.branch b) = some (hashStr id)) ∧
    crash s (setBranch b id ++ post) k .head = s .head ∧
    ∀ n, n ≠ b → crash s (setBranch b id ++ post) k (.branch n) = s (.branch n) :=
  ⟨old_or_new (pre := []) (by simp) (by simp) (hpost _ (.inl ⟨b, rfl⟩)) k,
   crash_untouched (List.forall_mem_append.2 ⟨untouched_replace (by simp) (by simp), hpost _ (.inr rfl)⟩),
   fun n hn => crash_untouched (List.forall_mem_append.2 ⟨untouched_replace (by simp [hn]) (by simp), hpost _ (.inl ⟨n, rfl⟩)⟩)⟩

/-- **`reset` (any mode)**: at every crash point the current branch holds its old or the target commit, completely; HEAD and every
    other branch file are untouched — whatever happens later to the staging area and the working tree -/
theorem reset_refs_old_or_new (s : FS) (b id line : Bytes) (idx : Option Bytes) (files : List (Bytes × Bytes)) (k : Nat) :
    (crash s (reset b id line idx files) k (.branch b) = s (.branch b) ∨
      crash s (reset b id line idx files) k (.branch b) = some (hashStr id)) ∧
    crash s (reset b id line idx files) k .head = s .head ∧
    ∀ n, n ≠ b → crash s (reset b id line idx files) k (.branch n) = s (.branch n) := by
  simp only [reset, List.append_assoc]
  -- after the branch file: the logs, the index, the work files, none of which is a reference
  refine setBranch_first fun r hr =>
    List.forall_mem_append.2 ⟨?_, List.forall_mem_append.2 ⟨?_, forall_mem_flatten_map fun f _ => ?_⟩⟩
  · rcases hr with ⟨n, rfl⟩ | rfl <;> simp
  · cases idx with
    | none => simp
    | some f => exact untouched_setIndex (.inr hr)
  · rcases hr with ⟨n, rfl⟩ | rfl <;> simp

/-- **`switch`**: at every crash point HEAD names the old or the new branch, completely; no branch file is touched -/
theorem switch_head_old_or_new (s : FS) (b line : Bytes) (k : Nat) :
    (crash s (switchTo b line) k .head = s .head ∨ crash s (switchTo b line) k .head = some (Head.render b)) ∧
    ∀ n, crash s (switchTo b line) k (.branch n) = s (.branch n) :=
  ⟨old_or_new (pre := []) (by simp) (by simp) (by simp) k,
   fun n => crash_untouched (List.forall_mem_append.2 ⟨untouched_replace (by simp) (by simp), by simp⟩)⟩

/-- **`update-ref`**: at every crash point the named branch holds its old or the new id, completely; HEAD names its old branch or
    the named one; every other branch file is untouched -/
theorem updateRef_old_or_new (s : FS) (b id : Bytes) (k : Nat) :
    (crash s (updateRef b id) k (.branch b) = s (.branch b) ∨ crash s (updateRef b id) k (.branch b) = some (hashStr id)) ∧
    (crash s (updateRef b id) k .head = s .head ∨ crash s (updateRef b id) k .head = some (Head.render b)) ∧
    ∀ n, n ≠ b → crash s (updateRef b id) k (.branch n) = s (.branch n) :=
  ⟨old_or_new (pre := []) (by simp) (by simp) (untouched_replace (by simp) (by simp)) k,
   old_or_new (post := []) (by simp) (untouched_replace (by simp) (by simp)) (by simp) k,
   fun n hn => crash_untouched (List.forall_mem_append.2
     ⟨untouched_replace (by simp [hn]) (by simp), untouched_replace (by simp) (by simp)⟩)⟩

/-- **`branch <name>`**: at every crash point the new branch file is absent (as before) or complete; HEAD and every other branch
    file are untouched -/
theorem branchCreate_absent_or_complete (s : FS) (n id line : Bytes) (k : Nat) :
    (crash s (branchCreate n id line) k (.branch n) = s (.branch n) ∨
      crash s (branchCreate n id line) k (.branch n) = some (hashStr id)) ∧
    crash s (branchCreate n id line) k .head = s .head ∧
    ∀ m, m ≠ n → crash s (branchCreate n id line) k (.branch m) = s (.branch m) :=
  setBranch_first fun r hr => by rcases hr with ⟨m, rfl⟩ | rfl <;> simp

/-! ### C16: a single I/O fault aborts the command at that operation -/

/-- **Same result or error**: a command reports success only if every operation was performed; with a
    fault at operation `k` it reports an error and has performed exactly the first `k` operations — the
    state is one of the crash states above (so the C15 theorems apply to it). -/
theorem fault_same_or_error (s : FS) (es : List E) (k : Option Nat) :
    ((fault s es k).1 = true → (fault s es k).2 = run s es) ∧
    ((fault s es k).1 = false → ∃ j, k = some j ∧ j < es.length ∧ (fault s es k).2 = crash s es j) := by
  cases k with
  | none => simp [fault]
  | some j =>
    by_cases h : j < es.length <;> simp [fault, h, crash]

/-- no half commit under a fault: if the branch was advanced, the commit's objects are complete -/
theorem fault_no_half_commit (objs : List (Bytes × Bytes)) (b cid line : Bytes) (j : Nat)
    (h : E.rename (.tmp "branch") (.branch b) ∈ (commit objs b cid line).take j) :
    ∀ o ∈ objs, E.write (.object o.1) o.2 ∈ (commit objs b cid line).take j :=
  commit_objects_before_ref objs b cid line j h

/-- non-vacuity: a commit of two new objects; the crash point right after the branch rename -/
example : E.rename (.tmp "branch") (.branch [98]) ∈ (commit [([1], [7]), ([2], [8])] [98] [9] []).take 7 := by decide +kernel

end C15
