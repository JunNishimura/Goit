import GoitProofs.Lemmas.WorldCases
import GoitProofs.Lemmas.Hex

/-! C18 on the whole-repository model: no state and no invocation makes `W.run` answer `crash` — sorted or not, connected or
    not, damaged or not. Left out: where HEAD's commit has no `tree` line `W.headSnap` does answer `crash` (the real reader
    panics there), and `commit`, `restore --staged` and `status` pass that on as `unsupported`. -/

namespace W

theorem addOne_no_crash (H : HashFn) (idx : List Entry) (p d : Bytes) : Cmds.addOne H idx p d ≠ .crash :=
  Res.map_ne_crash (IndexOps.update_no_crash _ _ _)

theorem addFold_no_crash (H : HashFn) (fs : List (Bytes × Bytes)) (acc : Res (List Entry)) (ha : acc ≠ .crash) :
    fs.foldl (fun (acc : Res (List Entry)) f => acc.bind fun i => Cmds.addOne H i f.1 f.2) acc ≠ .crash :=
  Res.foldl_ne_crash _ (fun _ f h => Res.bind_ne_crash h fun i => addOne_no_crash H i f.1 f.2) fs acc ha

theorem addArgsP_no_crash (H : HashFn) (w : Cmds.WS) (args : List Bytes) (idx : List Entry) (bs : List Bytes) :
    (addArgsP H w args idx bs).crash = false := by
  fun_induction addArgsP H w args idx bs with
  -- the three `crash` leaves: of `delete`, of the fold over a directory's files, of `addOne`
  | case5 => rename_i hd; exact absurd hd (IndexOps.delete_no_crash _ _)
  | case8 => rename_i hf; exact absurd hf (addFold_no_crash H _ _ nofun)
  | case11 => rename_i ho; exact absurd ho (addOne_no_crash H _ _ _)
  | case2 | case3 | case6 | case9 => assumption
  | _ => rfl

theorem diffStep_no_crash (es : List Entry) (acc : Res (List IndexOps.DiffEntry)) (t : Entry) (ha : acc ≠ .crash) :
    IndexOps.diffStep es acc t ≠ .crash := by
  refine Res.bind_ne_crash ha fun l => ?_
  split
  · exact fun _ => bsearchTop_no_crash _ _ ‹_›
  · nofun
  · rw [List.getElem?_eq_getElem (IndexOps.getEntry_found_lt es t.path _ ‹_›)]
    dsimp only; split <;> nofun

theorem diffWithTree_no_crash (es : List Entry) (tree : List Node) : IndexOps.diffWithTree es tree ≠ .crash :=
  Res.map_ne_crash (Res.foldl_ne_crash _ (diffStep_no_crash es) _ _ nofun)

theorem status_no_crash (H : HashFn) (w : Cmds.WS) : Cmds.status H w ≠ .crash := by
  unfold Cmds.status
  dsimp only
  split
  · exact fun _ => diffWithTree_no_crash _ _ ‹_›
  · nofun
  · nofun

/-! ### ids that come out of `ReadHash` are never empty (`readHash_ne_nil`), so `hash.String()[:2]` never slices an empty
    string: the history walk only ever asks for such ids -/

theorem header_parents (c : Commit) (ls : List Bytes) (c' : Commit) (rest : List Bytes)
    (hc : ∀ p ∈ c.parents, p ≠ []) (h : Commit.header c ls = some (c', rest)) : ∀ p ∈ c'.parents, p ≠ [] := by
  fun_induction Commit.header c ls with
  | case5 c l ls body id hr _ _ ih =>
    -- the one step that adds a parent: it comes out of `readHash`
    exact ih (List.forall_mem_append.2 ⟨hc, List.forall_mem_singleton.2 (readHash_ne_nil _ _ hr)⟩) h
  | case1 | case2 => cases h; exact hc                                 -- the header ends
  | case4 | case6 | case8 | case10 => cases h                          -- a `tree`/`parent`/`author`/`committer` line does not read
  | case3 | case7 | case9 | case11 => rename_i ih; exact ih hc h       -- `tree`, `author`, `committer`, any other word

theorem parse_parents (data : Bytes) (c : Commit) (h : Commit.parse data = some c) : ∀ p ∈ c.parents, p ≠ [] := by
  unfold Commit.parse at h
  split at h
  · cases h
  · rename_i c0 rest hh
    injection h with h
    rw [← h]
    exact header_parents {} _ c0 rest (by simp) hh

theorem walk_no_crash (H : HashFn) (st : Store) (k : Nat) (queue visited : List Bytes) (hq : ∀ p ∈ queue, p ≠ []) :
    History.walk H st k queue visited ≠ .crash := by
  fun_induction History.walk H st k queue visited with
  -- case3: the head of the queue was visited; case4: the one `crash` leaf, `Store.get` of it; case9: the recursive result is passed on
  | case3 => rename_i ih; exact ih fun p hp => hq p (List.mem_cons_of_mem _ hp)
  | case4 => rename_i hg; exact absurd hg (mt (C19.get_crash_iff H st _).1 (hq _ List.mem_cons_self))
  | case9 =>
    -- the queue grows by the parents of a parsed commit
    rename_i c hp _ ih
    exact ih fun p hp' => (List.mem_append.mp hp').elim (fun h => hq p (List.mem_cons_of_mem _ h)) (parse_parents _ c hp p)
  | _ => nofun

theorem branchCmd_no_crash (w l args list ren del tz ts) : (branchCmd w l args list ren del tz ts).2 ≠ .crash := by
  rcases branchCmd_cases w l args list ren del tz ts with e | ⟨out, e⟩ | ⟨n, _, e⟩ | e | e <;> rw [e]
  · nofun
  · nofun
  · rcases branchCreate_cases w l n tz ts with e | ⟨_, _, _, _, _, e⟩ <;> rw [e] <;> nofun
  · rcases branchRename_cases w l ren tz ts with e | e | ⟨_, _, _, _, _, e⟩ <;> rw [e] <;> nofun
  · rcases branchDelete_cases w l del with e | e | ⟨_, _, e⟩ <;> rw [e] <;> nofun

theorem switchCmd_no_crash (H) (w l args c tz ts) : (switchCmd H w l args c tz ts).2 ≠ .crash := by
  rcases switchCmd_cases H w l args c tz ts with e | ⟨n, e⟩ | e <;> rw [e]
  · nofun
  · rcases switchTo_cases H w l n tz ts with e | e | ⟨_, _, _, _, _, e⟩ <;> rw [e] <;> nofun
  · rcases switchCreate_cases w l c tz ts with e | e | ⟨_, _, _, _, _, e⟩ <;> rw [e] <;> nofun

theorem updateRefCmd_no_crash (H) (w l args) : (updateRefCmd H w l args).2 ≠ .crash := by
  rcases updateRefCmd_cases H w l args with e | e | ⟨_, _, id, d, _, _, _, _, e⟩ <;> rw [e]
  · nofun
  · nofun
  · rw [updateRefTo_eq]; split <;> nofun

theorem resetCmd_no_crash (H) (w l s m h args tz ts) : (resetCmd H w l s m h args tz ts).2 ≠ .crash := by
  rcases resetCmd_cases H w l s m h args tz ts with e | ⟨s', h', arg, t, prev, _, _, _, e⟩ <;> rw [e]
  · nofun
  · rw [resetTo_eq]; split
    · nofun
    · nofun
    · nofun
    · dsimp only; split
      · nofun
      · split <;> nofun
    · nofun

theorem commitCmd_no_crash (H) (w l msg tz ts) : (commitCmd H w l msg tz ts).2 ≠ .crash := by
  rcases commitCmd_cases H w l msg tz ts with ⟨_, e⟩ | ⟨_, e⟩ | ⟨_, _, ⟨_, _, e⟩ | ⟨_, _, e⟩ | ⟨id, data, _, e⟩⟩ <;> rw [e]
  · nofun
  · nofun
  · nofun
  · nofun
  · rw [commitWrite_eq]; split <;> nofun

theorem configCmd_no_crash (w g args) : (configCmd w g args).2 ≠ .crash := by
  rcases configCmd_cases w g args with e | ⟨_, _, _, _, _, e⟩ <;> rw [e] <;> nofun

theorem initCmd_no_crash (w) : (initCmd w).2 ≠ .crash := by
  rcases initCmd_cases w with e | e | e <;> rw [e] <;> nofun

theorem restoreWorkP_no_crash (H idx) (w : World) (args : List Bytes) : (restoreWorkP H idx w args).2 ≠ .crash := by
  fun_induction restoreWorkP H idx w args <;> first | assumption | nofun

theorem restoreCmd_no_crash (H) (w l st args) : (restoreCmd H w l st args).2 ≠ .crash := by
  rw [restoreCmd_eq]; split
  · nofun
  · exact restoreWorkP_no_crash H _ _ _
  · dsimp only; split <;> nofun
  · nofun
  · nofun

theorem addCmd_no_crash (H) (w l args) : (addCmd H w l args).2 ≠ .crash := by
  rcases addCmd_cases H w l args with ⟨o, rfl | rfl, e⟩ | ⟨_, _, e⟩ <;> rw [e]
  · nofun
  · nofun
  · rw [addArgsP_no_crash]; simp only [Bool.false_eq_true, if_false]; split <;> nofun

theorem rmCmd_no_crash (w l args) : (rmCmd w l args).2 ≠ .crash := by
  rcases rmCmd_cases w l args with ⟨o, rfl | rfl, e⟩ | ⟨_, e⟩ <;> rw [e]
  · nofun
  · nofun
  · dsimp only; split <;> nofun

theorem catFileCmd_no_crash (H) (w t p args) : catFileCmd H w t p args ≠ .crash := by
  unfold catFileCmd
  split
  · split
    · nofun
    split
    · nofun
    next id hr =>
    split
    · nofun
    -- the only `crash` leaf is `Store.get`'s, on an empty id; `id` comes out of `readHash`
    have := mt (C19.get_crash_iff H (store w) id).1 (readHash_ne_nil _ _ hr)
    split
    · dsimp only
      split
      · nofun
      split
      · split <;> nofun
      · nofun
    · contradiction
    · nofun
  · nofun

theorem hashObjectCmd_no_crash (H) (w : World) (args : List Bytes) (acc : Bytes) : hashObjectCmd H w args acc ≠ .crash := by
  fun_induction hashObjectCmd H w args acc <;> first | assumption | nofun

theorem revParseCmd_no_crash (w : World) (l : Loaded) (args : List Bytes) (acc : Bytes) : revParseCmd w l args acc ≠ .crash := by
  fun_induction revParseCmd w l args acc <;> first | assumption | nofun

theorem logCmd_no_crash (H : HashFn) (w : World) (l : Loaded) (hl : load H w = some l) (hn : ¬ l.headCommit.isNone = true) (anyB : Bool) (k : Int) :
    Cmds.logCmd H (store w) anyB ((l.headCommit.map (·.1)).getD []) k ≠ .crash := by
  cases hc : l.headCommit with
  | none => rw [hc] at hn; exact absurd rfl hn
  | some ic =>
    unfold Cmds.logCmd History.log
    split
    · nofun
    · exact Res.map_ne_crash (walk_no_crash H _ _ _ _ fun p hp => by
        obtain ⟨_, raw, _, hr⟩ := load_headCommit H w l hl ic.1 ic.2 hc
        rw [List.mem_singleton.mp hp]; exact readHash_ne_nil raw _ hr)

theorem run_never_crashes (H : HashFn) (w : World) (i : Inv) : (run H w i).2 ≠ .crash := by
  rcases run_cases H w i with e | e | ⟨_, _, e⟩ | ⟨l, hi, hp, hl, _⟩
  · rw [e]; nofun
  · rw [e]; nofun
  · rw [e]; exact initCmd_no_crash w
  · -- `exec` says nothing of the outcome of the read-only commands, so the dispatch is read off `run` itself
    obtain ⟨cmd, tz, ts⟩ := i
    unfold run
    simp only [hi, hp, hl, Bool.not_true, Bool.false_eq_true, if_false]
    cases cmd with
    | init => nofun
    | add args => exact addCmd_no_crash H w l args
    | rm args => exact rmCmd_no_crash w l args
    | commit msg => exact commitCmd_no_crash H w l msg tz ts
    | branch args list ren del => exact branchCmd_no_crash w l args list ren del tz ts
    | switch args create => exact switchCmd_no_crash H w l args create tz ts
    | reset s m h args => exact resetCmd_no_crash H w l s m h args tz ts
    | restore st args => exact restoreCmd_no_crash H w l st args
    | updateRef args => exact updateRefCmd_no_crash H w l args
    | config g args => exact configCmd_no_crash w g args
    | writeTree => nofun
    | status =>
      dsimp only; split
      · nofun
      · split
        · dsimp only; split
          · nofun
          · nofun
          · exact absurd ‹_› (status_no_crash H _)
        · split
          · dsimp only; split
            · nofun
            · nofun
            · exact absurd ‹_› (status_no_crash H _)
          · nofun
          · nofun
    | log n =>
      dsimp only; split
      · split <;> nofun
      · nofun
      · split
        · nofun
        · exact absurd ‹_› (logCmd_no_crash H w l hl ‹_› _ _)
    | reflog =>
      dsimp only; split
      · nofun
      · split <;> nofun
    | lsFiles st => nofun
    | catFile t p args => exact catFileCmd_no_crash H w t p args
    | hashObject args => exact hashObjectCmd_no_crash H w args []
    | revParse args => exact revParseCmd_no_crash w l args []

end W

namespace C18

/-- **No sub-command crashes on any state whatsoever** (whole-repository model): the answer of `W.run` is never
    `crash` — not only on the states Goit produces, but on every repository content: unsorted or duplicate
    staging entries, branch files in any order, dangling references, damaged objects. The out-of-range and
    empty-id panics of the mechanisms are unreachable from the commands. -/
theorem world_never_crashes (H : HashFn) (w : W.World) (i : W.Inv) : (W.run H w i).2 ≠ .crash :=
  W.run_never_crashes H w i

/-- and so along every history -/
theorem world_history_never_crashes (H : HashFn) (w : W.World) (is : List W.Inv) (i : W.Inv) :
    (W.run H (W.runAll H w is) i).2 ≠ .crash := W.run_never_crashes H _ i

end C18
