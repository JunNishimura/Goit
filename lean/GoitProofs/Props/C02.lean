import GoitProofs.Lemmas.TreeBuild

/-! # C02 — Commit records exactly the staged snapshot

The tree writer (`writeTreeObject`, `cmd/writeTree.go`) and the flattening used to read a snapshot back
(`getEntriesFromTree`). -/

namespace C02

open TreeBuild

/-- **The snapshot a commit records, flattened to (path, blob id) pairs, is exactly the staging
    area** — for *every* list of entries whose paths have non-empty components: any names (spaces,
    dots, dashes, non-ASCII), directories next to files whose names extend the directory's name
    (`lib/`, `lib.go`, `lib-old`), any nesting depth, any order (sortedness is not needed: runs are
    re-concatenated in order). -/
theorem flatten_writeTree (H : HashFn) (es : List Entry) (hok : AllOK es) :
    flattenTree (build H (fuelFor es) es) = es := by
  have h := (flatten_build H (fuelFor es) es hok (size_lt_fuelFor es)).2 []
  rw [addRoot_nil] at h
  exact h

/-- a non-empty staging area never produces an empty snapshot -/
theorem build_ne_nil (H : HashFn) (es : List Entry) (hok : AllOK es) (hne : es ≠ []) :
    build H (fuelFor es) es ≠ [] :=
  (flatten_build H (fuelFor es) es hok (size_lt_fuelFor es)).1 hne

/-- every sub-list handed to a sub-directory is non-empty, keeps valid paths, has a non-empty
    directory name and is strictly smaller: the recursion of `writeTreeObject` terminates and never
    writes an empty sub-tree -/
theorem subtrees_wellformed (es : List Entry) (hok : AllOK es) :
    ∀ d sub, Item.dir d sub ∈ group [] [] es → sub ≠ [] ∧ AllOK sub ∧ d ≠ [] ∧ size sub < size es :=
  group_dir es hok

/-- non-vacuity: the sibling shape of the property text, unsorted on purpose -/
example : AllOK [⟨[1], asc "lib/a"⟩, ⟨[2], asc "lib.go"⟩, ⟨[3], asc "lib-old"⟩, ⟨[4], asc "lib/x y/ü"⟩] := by
  intro e he
  simp at he
  rcases he with rfl | rfl | rfl | rfl <;> (intro c hc; revert c hc; decide)

end C02
