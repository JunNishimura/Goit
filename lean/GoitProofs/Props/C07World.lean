import GoitProofs.Props.C02World

/-! C07 on the whole-repository model, both directions: `commit` succeeds only if something staged differs from HEAD's snapshot
    (and one refused before `commit()` is entered changes nothing); in a state every history reaches any staged difference
    makes it succeed. -/

namespace C07

open TreeBuild IndexOps

/-- **A successful `commit` had a staged difference** (whole-repository model): when `commit` ends `ok` — if any branch exists —
    HEAD's snapshot was read and the comparison of the staging area with it listed at least one difference; on a repository without
    branches the staging area is not empty. Contrapositive: with nothing staged that differs, `commit` does not succeed, and then
    (`C07.world_commit_refused_unchanged`) it changes nothing. -/
theorem world_commit_needs_diff (H : HashFn) (w : W.World) (msg : Bytes) (tz : Int) (ts : List Int) (o : Option Bytes)
    (hout : (W.run H w ⟨.commit msg, tz, ts⟩).2 = .ok o) :
    ∃ l, W.load H w = some l ∧
      (w.heads.isEmpty = true → l.idx ≠ []) ∧
      (w.heads.isEmpty = false → ∃ sn d ds, W.headSnap H w l = .ok sn ∧
        diffWithTree l.idx (build H (fuelFor sn) sn) = .ok (d :: ds)) := by
  obtain ⟨l, snap, id, data, hl, hs, hcc, _⟩ := W.run_commit_ok H w msg tz ts o hout
  unfold W.commitSnap at hs
  obtain ⟨_, _, _, _, _, _, _, _, h1, h2⟩ := C02.commitCmd_ok H _ id data hcc
  refine ⟨l, hl, ?_, ?_⟩
  · intro he
    exact h1 (by simp [W.commitIn, he])
  · intro he
    obtain ⟨sn, d, ds, hsn, hdiff⟩ := h2 (by simp [W.commitIn, he])
    refine ⟨sn, d, ds, ?_, hdiff⟩
    have hsnap : snap = some sn := hsn
    subst hsnap
    by_cases hn : l.headCommit.isNone = true
    · rw [if_pos hn] at hs; injection hs with hs; cases hs
    · rw [if_neg hn] at hs
      cases hh : W.headSnap H w l <;> simp [hh, Res.map] at hs
      rw [hs]

/-- **Committing nothing is refused** (whole-repository model, in a state every history reaches): when the staging area equals
    HEAD's snapshot — as read back through the World's own store — `commit` does not end `ok`, whatever the message and the
    identity; and a `commit` that does not succeed before reaching the tree writer changes nothing
    (`C07.world_commit_refused_unchanged`). -/
theorem world_commit_nothing_staged_refused (H : HashFn) (w : W.World) (msg : Bytes) (tz : Int) (ts : List Int)
    (hj : W.J H w) (l : W.Loaded) (hl : W.load H w = some l) (sn : List Entry) (hsn : W.headSnap H w l = .ok sn)
    (heq : l.idx = sn) (hne : w.heads.isEmpty = false) (o : Option Bytes) :
    (W.run H w ⟨.commit msg, tz, ts⟩).2 ≠ .ok o := by
  intro hout
  obtain ⟨l', hl', _, h2⟩ := world_commit_needs_diff H w msg tz ts o hout
  rw [hl] at hl'; injection hl' with hl'; subst hl'
  obtain ⟨sn', d, ds, hsn', hdiff⟩ := h2 hne
  rw [hsn] at hsn'; injection hsn' with hsn'; subst hsn'
  have hgi := W.goodE_facts l.idx (W.loaded_idx_goodE H w l hl hj.1)
  have hgs := W.goodE_facts sn ((W.readsGoodE H w hj.2).2 l sn hl hsn)
  have := (diff_nil_iff H l.idx sn hgi.1 hgi.2.2.1 hgs.1 hgs.2.2.1).2 heq
  rw [this] at hdiff
  cases hdiff

/-- **Committing nothing is refused and changes nothing** on the whole-repository model: whenever the command model
    refuses (`Cmds.commitCmd = err`, e.g. by `C02.commit_refuses_noop` when the staging area equals HEAD's snapshot) and
    `commit()` was not entered, the world is returned as it was -/
theorem world_commit_refused_unchanged (H : HashFn) (w : W.World) (l : W.Loaded) (msg : Bytes) (tz : Int) (ts : List Int)
    (snap : Option (List Entry))
    (hs : (if l.headCommit.isNone = true then (Res.ok none : Res (Option (List Entry))) else (W.headSnap H w l).map some) = .ok snap)
    (herr : Cmds.commitCmd H (W.commitIn w l snap msg tz (W.clock ts 0)) = .err)
    (hnr : W.commitReached H (W.commitIn w l snap msg tz (W.clock ts 0)) l = false) :
    (W.commitCmd H w l msg tz ts).1 = w ∧ (W.commitCmd H w l msg tz ts).2 = .err := by
  rcases W.commitCmd_cases H w l msg tz ts with
    ⟨h1, _⟩ | ⟨h1, _⟩ | ⟨snap', hs', ⟨_, _, e⟩ | ⟨_, hr, _⟩ | ⟨id, data, hcc, _⟩⟩
  · exact absurd hs (h1 snap)
  · exact absurd hs (h1 snap)
  · rw [e]; exact ⟨rfl, rfl⟩
  all_goals
    rw [show W.commitSnap H w l = _ from hs] at hs'; cases hs'
  · rw [hnr] at hr; cases hr
  · rw [herr] at hcc; cases hcc

/-- **Any staged difference makes `commit` succeed** (whole-repository model): in a state meeting `W.Fsck` (every history), when HEAD's
    branch has a commit, the staging area differs from that commit's snapshot (as read back through the World's own store), an
    identity is configured, identity and message are in C12's domain, HEAD's file is there and names a valid branch name — `commit`
    ends `ok`. With `world_commit_nothing_staged_refused` this is the whole `commit-if-diff` clause on `W.run`. -/
theorem world_commit_succeeds_on_diff (H : HashFn) (w : W.World) (msg : Bytes) (tz : Int) (ts : List Int) (l : W.Loaded)
    (id0 : Bytes) (c0 : Commit) (sn : List Entry)
    (hf : W.Fsck H w) (hinit : w.inited = true) (hl : W.load H w = some l)
    (hh : l.headCommit = some (id0, c0)) (hsn : W.headSnap H w l = .ok sn) (hne : l.idx ≠ sn)
    (hu : Config.isUserSet l.loc l.glob = true) (hdom : W.CommitDomain w msg tz (W.clock ts 0))
    (hhead : w.head.isNone = false) (hvn : Refs.validName l.ref = true) :
    (W.run H w ⟨.commit msg, tz, ts⟩).2 = .ok none := by
  obtain ⟨hloc, hglob, _⟩ := W.load_some hl
  obtain ⟨_, raw, hraw, _⟩ := W.load_headCommit H w l hl id0 c0 hh
  have hneH := W.isEmpty_of_aget hraw
  have hgi := W.goodE_facts l.idx (W.loaded_idx_goodE H w l hl hf.2.1.1)
  have hgs := W.goodE_facts sn ((W.readsGoodE H w hf.2.1.2).2 l sn hl hsn)
  have hparse := W.format_parses H w l msg tz (W.clock ts 0) l.loc l.glob hf.1 hloc hglob hdom
  obtain ⟨id, data, hcc⟩ := C02.commit_accepts_diff H (W.commitIn w l (some sn) msg tz (W.clock ts 0)) sn l.loc l.glob
    hloc hglob hu (by simp [W.commitIn, hneH]) rfl hgi.1 hgi.2.2.1 hgs.1 hgs.2.2.1 hne hparse
  rw [W.run_loaded H w _ l hinit rfl hl]
  exact W.commitCmd_succeeds H w l msg tz ts (some sn) id data (by unfold W.commitSnap; rw [hh, hsn]; rfl) hcc hhead hvn

/-- **The first commit**: in a repository without branches, with a non-empty staging area, a configured identity and identity and
    message in C12's domain, `commit` ends `ok` (whole-repository model, a state meeting `W.Conn`) -/
theorem world_first_commit_succeeds (H : HashFn) (w : W.World) (msg : Bytes) (tz : Int) (ts : List Int) (l : W.Loaded)
    (hconn : W.Conn H w) (hinit : w.inited = true) (hl : W.load H w = some l)
    (hnb : w.heads.isEmpty = true) (hh : l.headCommit = none) (hne : l.idx.isEmpty = false)
    (hu : Config.isUserSet l.loc l.glob = true) (hdom : W.CommitDomain w msg tz (W.clock ts 0))
    (hhead : w.head.isNone = false) (hvn : Refs.validName l.ref = true) :
    (W.run H w ⟨.commit msg, tz, ts⟩).2 = .ok none := by
  obtain ⟨hloc, hglob, _⟩ := W.load_some hl
  have hparse := W.format_parses H w l msg tz (W.clock ts 0) l.loc l.glob hconn hloc hglob hdom
  obtain ⟨id, data, hcc⟩ := C02.commit_accepts_first H (W.commitIn w l none msg tz (W.clock ts 0)) l.loc l.glob hloc hglob hu
    (by simp [W.commitIn, hnb]) hne hparse
  rw [W.run_loaded H w _ l hinit rfl hl]
  exact W.commitCmd_succeeds H w l msg tz ts none id data (by unfold W.commitSnap; rw [hh]; rfl) hcc hhead hvn

end C07
