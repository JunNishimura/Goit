import GoitProofs.Props.C07Tree
import GoitProofs.Props.C05Store

/-! # C02 / C07 at command level: `goit commit` on the command model `Cmds.commitCmd`

The model is compared with the real command on every `commit` of the generated histories: it predicts the
id of the new commit object byte for byte (root tree of the staged entries, parent line, configured
identity, message) or the refusal. -/

namespace C02

open TreeBuild IndexOps C06 Cmds

theorem commitMake_ok (H : HashFn) (i : CommitIn) (name email id data : Bytes)
    (h : commitMake H i name email = .ok (id, data)) :
    data = commitData H i name email ∧ id = Obj.id H .commit data ∧ (Commit.parse data).isSome = true := by
  unfold commitMake at h
  split at h
  · cases h
  · next hp =>
    cases h
    exact ⟨rfl, rfl, by simpa [Option.isNone_iff_eq_none, Option.isSome_iff_ne_none] using hp⟩

/-- **What a successful `commit` creates.** If the command succeeds it is because an identity is configured,
    the staging area differs from HEAD's snapshot (or is non-empty before the first commit), and the new
    object is exactly: root tree of the staged entries (written by `writeTree`), the branch file's content
    as parent, the configured name / e-mail (local before global) with the clock as author and committer,
    and the message; its id is the hash of that content. -/
theorem commitCmd_ok (H : HashFn) (i : CommitIn) (id data : Bytes) (h : commitCmd H i = .ok (id, data)) :
    ∃ loc glob, cfgOf i.cfgLocal = some loc ∧ cfgOf i.cfgGlobal = some glob ∧ Config.isUserSet loc glob = true ∧
      data = Commit.format (writeTree H i.index).id i.branchRaw
        ⟨Config.userField loc glob (asc "name"), Config.userField loc glob (asc "email"), i.unix, i.offset⟩
        ⟨Config.userField loc glob (asc "name"), Config.userField loc glob (asc "email"), i.unix, i.offset⟩ i.msg ∧
      id = Obj.id H .commit data ∧ (Commit.parse data).isSome = true ∧
      (i.anyBranches = false → i.index ≠ []) ∧
      (i.anyBranches = true → ∃ sn d ds, i.snap = some sn ∧
          diffWithTree i.index (build H (fuelFor sn) sn) = .ok (d :: ds)) := by
  unfold commitCmd at h
  split at h
  case h_2 => cases h
  next loc glob hl hg =>
  refine ⟨loc, glob, hl, hg, ?_⟩
  revert h
  fun_cases commitWith H i loc glob with
  | case3 hu hb he =>
    -- before the first commit
    intro h
    obtain ⟨h1, h2, h3⟩ := commitMake_ok H i _ _ id data h
    exact ⟨by simpa using hu, h1, h2, h3, fun _ hn => he (by simp [hn]), fun hf => by simp [hf] at hb⟩
  | case6 hu hb sn hsn l hne hd =>
    -- a non-empty staged difference against HEAD's snapshot
    intro h
    obtain ⟨h1, h2, h3⟩ := commitMake_ok H i _ _ id data h
    obtain ⟨d, ds, rfl⟩ := List.exists_cons_of_ne_nil hne
    exact ⟨by simpa using hu, h1, h2, h3, fun hf => by simp [hf] at hb, fun _ => ⟨sn, d, ds, hsn, hd⟩⟩
  | _ => nofun

/-- **Committing nothing is refused**: with a HEAD snapshot equal to the staging area the command refuses,
    whatever the configuration, names or message. -/
theorem commit_refuses_noop (H : HashFn) (i : CommitIn) (sn : List Entry) (hb : i.anyBranches = true)
    (hsn : i.snap = some sn) (hs : Canonical sn) (hok : AllOK sn) (heq : i.index = sn) :
    commitCmd H i = .err := by
  subst heq
  have hd := (C07.diff_nil_iff H _ _ hs hok hs hok).2 rfl
  unfold commitCmd
  split
  · unfold commitWith
    split
    · rfl
    · simp only [hb, Bool.not_true, Bool.false_eq_true, if_false, hsn, hd]
  · rfl

/-- **Conversely any staged difference makes `commit` succeed** (given an identity the reader accepts). -/
theorem commit_accepts_diff (H : HashFn) (i : CommitIn) (sn : List Entry) (loc glob : Config.Sections)
    (hl : cfgOf i.cfgLocal = some loc) (hg : cfgOf i.cfgGlobal = some glob) (hu : Config.isUserSet loc glob = true)
    (hb : i.anyBranches = true) (hsn : i.snap = some sn)
    (hsi : Canonical i.index) (hoki : AllOK i.index) (hs : Canonical sn) (hok : AllOK sn) (hne : i.index ≠ sn)
    (hparse : (Commit.parse (commitData H i (Config.userField loc glob (asc "name")) (Config.userField loc glob (asc "email")))).isSome = true) :
    ∃ id data, commitCmd H i = .ok (id, data) := by
  obtain ⟨l, hd⟩ : ∃ l, diffWithTree i.index (build H (fuelFor sn) sn) = .ok l :=
    ⟨_, C07.diff_exact H i.index sn hsi hoki hs hok⟩
  unfold commitCmd
  simp only [hl, hg]
  unfold commitWith
  simp only [hu, Bool.not_true, Bool.false_eq_true, if_false, hb, hsn, hd]
  cases l with
  | nil => exact absurd ((C07.diff_nil_iff H i.index sn hsi hoki hs hok).1 hd) hne
  | cons d ds =>
    simp only [commitMake, ← Option.not_isSome, hparse, Bool.not_true, Bool.false_eq_true, if_false]
    exact ⟨_, _, rfl⟩

/-- before the first commit a non-empty staging area is enough -/
theorem commit_accepts_first (H : HashFn) (i : CommitIn) (loc glob : Config.Sections)
    (hl : cfgOf i.cfgLocal = some loc) (hg : cfgOf i.cfgGlobal = some glob) (hu : Config.isUserSet loc glob = true)
    (hb : i.anyBranches = false) (hne : i.index.isEmpty = false)
    (hparse : (Commit.parse (commitData H i (Config.userField loc glob (asc "name")) (Config.userField loc glob (asc "email")))).isSome = true) :
    ∃ id data, commitCmd H i = .ok (id, data) := by
  unfold commitCmd
  simp only [hl, hg]
  unfold commitWith
  simp only [hu, hb, hne, Bool.not_true, Bool.not_false, Bool.false_eq_true, if_false, if_true, commitMake, ← Option.not_isSome, hparse]
  exact ⟨_, _, rfl⟩

/-- **The commit `commit` creates reads back as exactly the staged entries** (end to end, through the object
    store): after the objects of a successful `commit` are stored, `Index.Reset` to the new commit id installs
    the entries that were staged. Composition of `commitCmd_ok` with `C05.reset_readback`. -/
theorem commit_readback (H : HashFn) (s : Store) (i : CommitIn) (id data : Bytes) (parent : Option Bytes) (msg : List Bytes)
    (h : commitCmd H i = .ok (id, data))
    (hbr : i.branchRaw = parent.map hashStr) (hm : i.msg = Bytes.join [10] msg) (hmsg : msg ≠ [])
    (hok : AllOK i.index) (heok : C05.EntriesOK i.index) (hp : ∀ p, parent = some p → p.length = 20)
    (hsign : ∀ loc glob, cfgOf i.cfgLocal = some loc → cfgOf i.cfgGlobal = some glob →
      C12.SignOK ⟨Config.userField loc glob (asc "name"), Config.userField loc glob (asc "email"), i.unix, i.offset⟩)
    (hlines : ∀ loc glob, cfgOf i.cfgLocal = some loc → cfgOf i.cfgGlobal = some glob →
      ∀ l ∈ C12.headerLines (writeTree H i.index).id parent
        ⟨Config.userField loc glob (asc "name"), Config.userField loc glob (asc "email"), i.unix, i.offset⟩
        ⟨Config.userField loc glob (asc "name"), Config.userField loc glob (asc "email"), i.unix, i.offset⟩ ++ [[]] ++ msg, Bytes.LineOK l) :
    let ws := (writeTree H i.index).writes ++ [(id, Obj.encode .commit data)]
    CollisionFreeOn H (fun b => ∃ p ∈ ws, p.2 = b) → C05.Small ws →
    Cmds.resetEntries H (C05.storeAfter s ws) (fuelFor i.index) id = .ok i.index := by
  obtain ⟨loc, glob, hl, hg, _, hdata, hid, _, _, _⟩ := commitCmd_ok H i id data h
  intro ws hcf hsmall
  have hidsha : id = H.sha (Obj.encode .commit data) := hid
  have := C05.reset_readback H s i.index parent _ _ msg hok heok hmsg hp (hsign loc glob hl hg) (hsign loc glob hl hg)
    (hlines loc glob hl hg)
  simp only at this
  rw [hbr, hm] at hdata
  rw [← hdata, ← hidsha] at this
  exact this hcf hsmall

end C02
