import GoitProofs.Props.WorldAgree
import GoitProofs.Props.C20Cmd

/-! C20 on the whole-repository model: without a configured identity `commit` is refused and changes nothing; a setting accepted
    by `config` is what every later invocation loads. -/

namespace C20

/-- **Identity gate** on the whole-repository model: until both a name and an e-mail address are configured (locally or
    globally), `commit` is refused and the repository — objects, branches, HEAD, logs, staging area — is unchanged -/
theorem world_identity_gate (H : HashFn) (w : W.World) (l : W.Loaded) (hl : W.load H w = some l) (msg : Bytes) (tz : Int) (ts : List Int)
    (hu : Config.isUserSet l.loc l.glob = false) :
    (W.commitCmd H w l msg tz ts).1 = w ∧ ∀ o, (W.commitCmd H w l msg tz ts).2 ≠ .ok o := by
  -- without an identity the command model refuses, and `commit()` is not reached
  have herr : ∀ snap, Cmds.commitCmd H (W.commitIn w l snap msg tz (W.clock ts 0)) = .err := fun snap => by
    unfold Cmds.commitCmd
    rw [show (W.commitIn w l snap msg tz (W.clock ts 0)).cfgLocal = w.cfgLocal from rfl,
      show (W.commitIn w l snap msg tz (W.clock ts 0)).cfgGlobal = w.cfgGlobal from rfl, (W.load_some hl).1, (W.load_some hl).2.1]
    unfold Cmds.commitWith
    simp only [hu, Bool.not_false, if_true]
  have hnr : ∀ snap, W.commitReached H (W.commitIn w l snap msg tz (W.clock ts 0)) l = false := fun snap => by
    unfold W.commitReached; rw [hu]; rfl
  rcases W.commitCmd_cases H w l msg tz ts with
    ⟨_, e⟩ | ⟨_, e⟩ | ⟨snap, _, ⟨_, _, e⟩ | ⟨_, hr, _⟩ | ⟨id, data, hcc, _⟩⟩
  · rw [e]; exact ⟨rfl, nofun⟩
  · rw [e]; exact ⟨rfl, nofun⟩
  · rw [e]; exact ⟨rfl, nofun⟩
  · rw [hnr snap] at hr; cases hr
  · rw [herr snap] at hcc; cases hcc

open Config Cmds

/-- **A local setting accepted by `config` is read back by the start-up load of every later invocation**, and every other key
    of the local file reads as before (whole-repository model; the local file before the command is one Goit wrote: `CfgOK`) -/
theorem world_config_readback (H : HashFn) (w : W.World) (key value sec k : Bytes) (o : Option Bytes) (c : Sections)
    (h : (W.configCmd w false [key, value]).2 = .ok o)
    (hc : cfgOf w.cfgLocal = some c) (hok : CfgOK c) (hsp : Bytes.split1 46 key = [sec, k]) (hk : KeyOK k) (hv : ValOK value)
    (hl1 : (headLine sec).length < Bytes.maxToken) (hl2 : (keyLine (k, value)).length < Bytes.maxToken)
    (l' : W.Loaded) (hl : W.load H (W.configCmd w false [key, value]).1 = some l') :
    get l'.loc sec k = some value ∧ ∀ s' k', ¬ (s' = sec ∧ k' = k) → get l'.loc s' k' = get c s' k' := by
  obtain ⟨c', hcmd, hfile, _, _⟩ := world_config_is_cmd w false key value o h
  simp only [Bool.false_eq_true, if_false] at hcmd hfile
  obtain ⟨hpr, hget, hothers⟩ := configCmd_roundtrip w.cfgLocal key value c' hcmd c hc hok sec k hsp hk hv hl1 hl2
  have hloc : l'.loc = c' := by
    have h1 := (W.load_some hl).1
    rw [hfile, show cfgOf (some (render c')) = some c' from hpr] at h1
    exact (Option.some.inj h1).symm
  rw [hloc]
  exact ⟨hget, hothers⟩

/-- after an accepted `config user.name v` every later invocation signs with the name `v` -/
theorem world_config_sets_identity (H : HashFn) (w : W.World) (value : Bytes) (o : Option Bytes) (c : Sections)
    (h : (W.configCmd w false [asc "user.name", value]).2 = .ok o)
    (hc : cfgOf w.cfgLocal = some c) (hok : CfgOK c) (hv : ValOK value)
    (hl2 : (keyLine (asc "name", value)).length < Bytes.maxToken)
    (l' : W.Loaded) (hl : W.load H (W.configCmd w false [asc "user.name", value]).1 = some l') :
    W.userName l' = value := by
  have := (world_config_readback H w (asc "user.name") value (asc "user") (asc "name") o c h hc hok (by decide)
    ⟨by decide, by decide, by decide, by unfold Trimmed; decide⟩ hv (by decide) hl2 l' hl).1
  unfold W.userName Config.userField
  rw [this]

/-- the `--global` form: the setting is what every later invocation loads from the global file, every other key of it as before -/
theorem world_config_global_readback (H : HashFn) (w : W.World) (key value sec k : Bytes) (o : Option Bytes) (c : Sections)
    (h : (W.configCmd w true [key, value]).2 = .ok o)
    (hc : cfgOf w.cfgGlobal = some c) (hok : CfgOK c) (hsp : Bytes.split1 46 key = [sec, k]) (hk : KeyOK k) (hv : ValOK value)
    (hl1 : (headLine sec).length < Bytes.maxToken) (hl2 : (keyLine (k, value)).length < Bytes.maxToken)
    (l' : W.Loaded) (hl : W.load H (W.configCmd w true [key, value]).1 = some l') :
    get l'.glob sec k = some value ∧ ∀ s' k', ¬ (s' = sec ∧ k' = k) → get l'.glob s' k' = get c s' k' := by
  obtain ⟨c', hcmd, hfile, _, _⟩ := world_config_is_cmd w true key value o h
  simp only [if_true] at hcmd hfile
  obtain ⟨hpr, hget, hothers⟩ := configCmd_roundtrip w.cfgGlobal key value c' hcmd c hc hok sec k hsp hk hv hl1 hl2
  have hglob : l'.glob = c' := by
    have h1 := (W.load_some hl).2.1
    rw [hfile, show cfgOf (some (render c')) = some c' from hpr] at h1
    exact (Option.some.inj h1).symm
  rw [hglob]
  exact ⟨hget, hothers⟩

/-- **precedence**: a key set only globally is the one the loaded identity uses; a local value for it overrides -/
theorem userField_precedence (loc glob : Sections) (k : Bytes) :
    (∀ v, get loc (asc "user") k = some v → userField loc glob k = v) ∧
    (get loc (asc "user") k = none → ∀ v, get glob (asc "user") k = some v → userField loc glob k = v) := by
  unfold userField
  constructor
  · intro v hv; rw [hv]
  · intro hn v hv; rw [hn, hv]; rfl

end C20
