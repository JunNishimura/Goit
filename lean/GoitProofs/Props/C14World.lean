import GoitProofs.Props.C03Closure

/-! C14 on the whole-repository model: in every state a history reaches the history walk of `log` never fails, because every
    parent of a stored commit is a stored commit (`W.K.parents`). -/

namespace W

/-- the result starts with the first id of the queue when that is new and `k` is positive -/
theorem walk_total (H : HashFn) (w : World)
    (hpar : ∀ id c, commitAt H w id = some c → ∀ p ∈ c.parents, (commitAt H w p).isSome = true)
    (k : Nat) (queue visited : List Bytes) (hq : ∀ id ∈ queue, (commitAt H w id).isSome = true) :
    ∃ r, History.walk H (store w) k queue visited = .ok r ∧ r.length ≤ k ∧
      (∀ x ∈ r, commitAt H w x.1 = some x.2) ∧
      ∀ cur q, queue = cur :: q → visited.contains cur = false → 0 < k → ∃ c rest, r = (cur, c) :: rest := by
  induction k generalizing queue visited with
  | zero => exact ⟨[], (by simp [History.walk]), Nat.le_refl _, (fun x hx => by cases hx), fun _ _ _ _ h => (by cases h)⟩
  | succ k ih =>
    cases queue with
    | nil => exact ⟨[], (by simp [History.walk]), Nat.zero_le _, (fun x hx => by cases hx), fun _ _ h => (by cases h)⟩
    | cons cur queue =>
      unfold History.walk
      by_cases hv : visited.contains cur = true
      · rw [if_pos hv]
        obtain ⟨r, hr, hl, hall, _⟩ := ih queue visited (fun id hid => hq id (List.mem_cons_of_mem _ hid))
        exact ⟨r, hr, (by omega), hall, fun _ _ h hn => by cases h; rw [hv] at hn; cases hn⟩
      · rw [if_neg hv]
        obtain ⟨c, hc⟩ := Option.isSome_iff_exists.1 (hq cur List.mem_cons_self)
        obtain ⟨d, hg, hp⟩ := commitAt_some_get H w cur c hc
        simp only [hg, ne_eq, not_true_eq_false, if_false, hp]
        obtain ⟨r, hr, hl, hall, _⟩ := ih (queue ++ c.parents) (cur :: visited)
          (List.forall_mem_append.2 ⟨fun id hid => hq id (List.mem_cons_of_mem _ hid), hpar cur c hc⟩)
        rw [hr]
        exact ⟨(cur, c) :: r, rfl, (by simp; omega), List.forall_mem_cons.2 ⟨hc, hall⟩, fun _ _ h _ _ => by cases h; exact ⟨c, r, rfl⟩⟩

end W

namespace C14

/-- **`log` never fails in a state a history reaches, lists stored commits only, at most `n` of them, HEAD's commit first**
    (whole-repository model): `W.K.parents` is exactly what the walk needs. With `C03.world_fsck`, this holds after every history
    from the empty directory. -/
theorem world_log_total (H : HashFn) (w : W.World) (hk : W.K H w) (head : Bytes) (hh : (W.commitAt H w head).isSome = true) (n : Int) :
    ∃ r, History.log H (W.store w) head n = .ok r ∧ r.length ≤ n.toNat ∧
      (∀ x ∈ r, W.commitAt H w x.1 = some x.2) ∧ (0 < n → ∃ c rest, r = (head, c) :: rest) := by
  obtain ⟨r, hr, hl, hall, hhead⟩ := W.walk_total H w hk.parents n.toNat [head] [] (fun id hid => by simp at hid; rw [hid]; exact hh)
  exact ⟨r, hr, hl, hall, fun hn => hhead head [] rfl rfl (by omega)⟩

/-- **`log -n k` succeeds and changes nothing in every state a history reaches** in which HEAD's branch has a commit
    (whole-repository model) -/
theorem world_log_ok (H : HashFn) (w : W.World) (n : Int) (tz : Int) (ts : List Int) (l : W.Loaded) (id : Bytes) (c : Commit)
    (hinit : w.inited = true) (hl : W.load H w = some l) (hk : W.K H w) (hh : l.headCommit = some (id, c)) :
    (W.run H w ⟨.log n, tz, ts⟩).1 = w ∧ (W.run H w ⟨.log n, tz, ts⟩).2 = .ok none := by
  obtain ⟨hca, raw, hraw, _⟩ := W.load_headCommit H w l hl id c hh
  have hne := W.isEmpty_of_aget hraw
  obtain ⟨r, hr, _⟩ := world_log_total H w hk id (by rw [hca]; rfl) n
  unfold W.run
  simp only [hinit, Bool.not_true, Bool.false_eq_true, if_false, W.pathArgs, List.all_nil, hl, hh, Option.map_some, Option.getD_some,
    Cmds.logCmd, hne, hr, Res.map, Option.isNone_some]
  exact ⟨trivial, by simp⟩

end C14
