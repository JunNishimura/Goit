import GoitProofs.Lemmas.WorldCases

/-! C02 on the whole-repository model: what a successful `commit` leaves behind, at the level of the files. -/

namespace C02
open W

/-- **What a successful `commit` leaves behind** (whole-repository model): the commit object `(id, data)` that the
    command model `Cmds.commitCmd` determines (`C02.commitCmd_ok`: root tree of the staged entries, the branch file's
    content as parent, the configured identity twice, the message) is stored; the current branch file holds its hex
    id; HEAD names that branch; one and the same record line is appended to `logs/HEAD` and to the branch's log.
    `C02.world_commit_frame` adds: staging area, working tree and configuration are untouched. -/
theorem world_commit_spec (H : HashFn) (w : W.World) (l : W.Loaded) (id data msg : Bytes) (tz : Int) (ts : List Int) (o : Option Bytes)
    (h : (W.commitWrite H w l id data msg tz ts).2 = .ok o) :
    (W.aget (W.commitWrite H w l id data msg tz ts).1.objs id).isSome = true ∧
      W.aget (W.commitWrite H w l id data msg tz ts).1.heads l.ref = some (hashStr id) ∧
      (W.commitWrite H w l id data msg tz ts).1.head = some (Head.render l.ref) ∧
      ∃ line, (W.commitWrite H w l id data msg tz ts).1.logHead = some (w.logHead.getD [] ++ line) ∧
        W.aget (W.commitWrite H w l id data msg tz ts).1.logHeads l.ref = some ((W.aget w.logHeads l.ref).getD [] ++ line) := by
  have hput : (aget (commitStore H w l.idx id data).objs id).isSome = true := by
    rw [commitStore, aget_putObj, if_pos rfl]; rfl
  have hlh : (commitStore H w l.idx id data).logHead = w.logHead := by rw [putObj_logHead', putObjs_logHead']
  have hlhs : (commitStore H w l.idx id data).logHeads = w.logHeads := by rw [putObj_logHeads', putObjs_logHeads']
  revert h; rw [commitWrite_eq]; split <;> intro h
  · cases h
  · cases h
  · generalize commitStore H w l.idx id data = w1 at hput hlh hlhs
    exact ⟨hput, aget_aset_self _ _ _, rfl, _, by rw [← hlh]; rfl, by rw [← hlhs]; exact aget_aset_self _ _ _⟩

end C02
