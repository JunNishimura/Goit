import GoitProofs.Props.C10

/-! # C10: the sorted branch list of `internal/store/refs.go` refines the abstract branch map

`Refs.add / delete / update / rename` (binary search + re-sort on the name-sorted list, compared with the
real `AddBranch`, `DeleteBranch`, `UpdateBranchHash`, `RenameBranch` in-process) behave, under `lookup`, like
the corresponding operations on the abstract branch map — so the invariants proved on the abstract machine
(`C03.inv_run`, `C10.others_keep`) are about what the list operations compute. -/

namespace C10

open Refs

theorem lookup_eq_some_iff (h : Heads) (hnd : (names h).Nodup) (m id : Bytes) :
    lookup h m = some id ↔ (m, id) ∈ h := by
  refine ⟨fun hl => ?_, fun hm => congrArg (Option.map Prod.snd) (find?_key_of_mem Prod.fst hnd hm)⟩
  obtain ⟨b, hb, rfl⟩ := Option.map_eq_some_iff.1 hl
  have := List.find?_some hb
  cases eq_of_beq this
  exact List.mem_of_find?_eq_some hb

/-- the re-sorting in `add` / `rename` is invisible to `lookup` -/
theorem lookup_perm {h h' : Heads} (hp : h'.Perm h) (hnd : (names h).Nodup) (m : Bytes) : lookup h' m = lookup h m := by
  apply Option.ext; intro x
  rw [lookup_eq_some_iff h' ((hp.map _).nodup_iff.2 hnd), lookup_eq_some_iff h hnd, hp.mem_iff]

theorem sortHeads_sorted (h : Heads) (hnd : (names h).Nodup) : Sorted (sortHeads h) :=
  sortedKeys_mergeSort Prod.fst h hnd

/-! On a list with distinct names, erasing / modifying *at the position of a name* is filtering / mapping
    *by that name*: the positional operations of `refs.go` are the abstract machine's operations on the nose. -/

theorem eraseIdx_eq_filter (h : Heads) (hnd : (names h).Nodup) (i : Nat) (hi : i < h.length) :
    h.eraseIdx i = h.filter (fun b => b.1 != h[i].1) := by
  induction h generalizing i with
  | nil => cases hi
  | cons a as ih =>
    obtain ⟨ha, has⟩ := List.nodup_cons.1 hnd
    have hne : ∀ b ∈ as, b.1 ≠ a.1 := fun b hb e => ha (List.mem_map.2 ⟨b, hb, e⟩)
    cases i with
    | zero => simpa using (List.filter_eq_self.2 fun b hb => by simpa using hne b hb).symm
    | succ i =>
      have := hne _ (List.getElem_mem (Nat.lt_of_succ_lt_succ hi))
      simp [ih has i (Nat.lt_of_succ_lt_succ hi), Ne.symm this]

theorem modify_eq_map (h : Heads) (hnd : (names h).Nodup) (i : Nat) (hi : i < h.length) (id : Bytes) :
    h.modify i (fun p => (p.1, id)) = h.map (fun b => if b.1 == h[i].1 then (h[i].1, id) else b) := by
  induction h generalizing i with
  | nil => cases hi
  | cons a as ih =>
    obtain ⟨ha, has⟩ := List.nodup_cons.1 hnd
    have hne : ∀ b ∈ as, b.1 ≠ a.1 := fun b hb e => ha (List.mem_map.2 ⟨b, hb, e⟩)
    cases i with
    | zero =>
      simp only [List.modify_zero_cons, List.getElem_cons_zero, List.map_cons, beq_self_eq_true, if_true]
      congr 1
      exact ((List.map_congr_left (g := fun b => b) fun b hb => by simp [hne b hb]).trans (List.map_id' as)).symm
    | succ i =>
      have := hne _ (List.getElem_mem (Nat.lt_of_succ_lt_succ hi))
      simp [ih has i (Nat.lt_of_succ_lt_succ hi), Ne.symm this]

/-- the abstract map of a sorted branch list -/
def absOf (h : Heads) : List (Abs.Name × Abs.Id) := h

/-- `lookup` on the sorted list is `find` on the abstract map: the two machines speak about the same function -/
theorem lookup_eq_find (h : Heads) (m : Bytes) : lookup h m = find (absOf h) m := rfl

theorem add_inv (h : Heads) (hs : Sorted h) (n id : Bytes) (h' : Heads) (ha : add h n id = .ok h') :
    n ∉ names h ∧ h' = sortHeads (h ++ [(n, id)]) := by
  unfold add at ha
  split at ha
  · cases ha
  · rcases getBranchPos_cases h hs n with ⟨i, hi, hn, hf⟩ | ⟨hm, hf⟩
    · simp [hf] at ha
    · simp only [hf, Res.ok.injEq] at ha; exact ⟨hm, ha.symm⟩

theorem delete_inv (h : Heads) (hs : Sorted h) (head del : Bytes) (h' : Heads) (hd : delete h head del = .ok h') :
    del ≠ head ∧ ∃ i, ∃ hi : i < h.length, h[i].1 = del ∧ h' = h.eraseIdx i := by
  unfold delete at hd
  split at hd
  · cases hd
  · rename_i hne
    rcases getBranchPos_cases h hs del with ⟨i, hi, hn, hf⟩ | ⟨hm, hf⟩
    · simp only [hf, Res.ok.injEq] at hd; exact ⟨hne, i, hi, hn, hd.symm⟩
    · simp [hf] at hd

theorem update_inv (h : Heads) (hs : Sorted h) (n id : Bytes) (h' : Heads) (hu : update h n id = .ok h') :
    ∃ i, ∃ hi : i < h.length, h[i].1 = n ∧ h' = h.modify i (fun p => (p.1, id)) := by
  unfold update at hu
  rcases getBranchPos_cases h hs n with ⟨i, hi, hn, hf⟩ | ⟨hm, hf⟩
  · simp only [hf, Res.ok.injEq] at hu; exact ⟨i, hi, hn, hu.symm⟩
  · simp [hf] at hu

theorem rename_inv (h : Heads) (hs : Sorted h) (cur new : Bytes) (h' : Heads) (hr : rename h cur new = .ok h') :
    new ∉ names h ∧ ∃ i, ∃ hi : i < h.length, h[i].1 = cur ∧ h' = sortHeads (h.modify i (fun p => (new, p.2))) := by
  unfold rename at hr
  split at hr
  · cases hr
  · rcases getBranchPos_cases h hs new with ⟨i, hi, hn, hf⟩ | ⟨hm, hf⟩
    · simp [hf] at hr
    · rcases getBranchPos_cases h hs cur with ⟨i, hi, hn, hf'⟩ | ⟨hm', hf'⟩
      · simp only [hf, hf', Res.ok.injEq] at hr; exact ⟨hm, i, hi, hn, hr.symm⟩
      · simp [hf, hf'] at hr

/-- `add` and `rename` both put a pair with a fresh name into the list and sort again -/
theorem sortHeads_cons {h h' : Heads} {k v : Bytes} (hp : h'.Perm ((k, v) :: h)) (hnd : (names h).Nodup)
    (hk : k ∉ names h) :
    Sorted (sortHeads h') ∧ ∀ m, lookup (sortHeads h') m = if m = k then some v else lookup h m := by
  have hnd1 : (names ((k, v) :: h)).Nodup := List.nodup_cons.2 ⟨hk, hnd⟩
  exact ⟨sortHeads_sorted _ ((hp.map _).nodup_iff.2 hnd1),
    fun m => (lookup_perm ((List.mergeSort_perm ..).trans hp) hnd1 m).trans (find_cons ..)⟩

/-- **Refinement, create**: the list operation and the abstract `branches ++ [(n, t)]` resolve every name alike -/
theorem add_refines (h : Heads) (hs : Sorted h) (n id : Bytes) (h' : Heads) (ha : add h n id = .ok h') (m : Bytes) :
    lookup h' m = find (absOf h ++ [(n, id)]) m := by
  obtain ⟨hnew, rfl⟩ := add_inv h hs n id h' ha
  exact lookup_perm (List.mergeSort_perm _ _)
    (((List.perm_append_singleton ..).map _).nodup_iff.2 (List.nodup_cons.2 ⟨hnew, hs.nodup⟩)) m

/-- **create**: afterwards the new name resolves to the given commit and every other name resolves as before -/
theorem add_lookup (h : Heads) (hs : Sorted h) (n id : Bytes) (h' : Heads) (ha : add h n id = .ok h') :
    Sorted h' ∧ ∀ m, lookup h' m = if m = n then some id else lookup h m := by
  obtain ⟨hnew, rfl⟩ := add_inv h hs n id h' ha
  exact sortHeads_cons (List.perm_append_singleton ..) hs.nodup hnew

/-- **Refinement, delete**: the list operation and the abstract `filter (name ≠ del)` resolve every name alike -/
theorem delete_refines (h : Heads) (hs : Sorted h) (head del : Bytes) (h' : Heads) (hd : delete h head del = .ok h') (m : Bytes) :
    lookup h' m = find ((absOf h).filter (fun b => b.1 != del)) m := by
  obtain ⟨_, i, hi, rfl, rfl⟩ := delete_inv h hs head del h' hd
  rw [eraseIdx_eq_filter h hs.nodup i hi]; rfl

/-- **delete**: afterwards the name no longer resolves and every other name resolves as before -/
theorem delete_lookup (h : Heads) (hs : Sorted h) (head del : Bytes) (h' : Heads) (hd : delete h head del = .ok h') :
    Sorted h' ∧ del ≠ head ∧ ∀ m, lookup h' m = if m = del then none else lookup h m := by
  refine ⟨?_, (delete_inv h hs head del h' hd).1, fun m => (delete_refines h hs head del h' hd m).trans (find_filter ..)⟩
  obtain ⟨_, i, hi, -, rfl⟩ := delete_inv h hs head del h' hd
  exact List.Pairwise.sublist ((List.eraseIdx_sublist h i).map _) hs

theorem names_modify_snd (h : Heads) (i : Nat) (id : Bytes) : names (h.modify i (fun p => (p.1, id))) = names h := by
  apply List.ext_getElem (by simp [names])
  intro j _ _
  simp only [names, List.getElem_map, List.getElem_modify]; split <;> rfl

/-- **Refinement, update-ref / commit / reset**: the list operation and the abstract `setBranch` resolve every name alike -/
theorem update_refines (h : Heads) (hs : Sorted h) (n id : Bytes) (h' : Heads) (hu : update h n id = .ok h') (m : Bytes) :
    lookup h' m = find (Abs.setBranch (absOf h) n id) m := by
  obtain ⟨i, hi, rfl, rfl⟩ := update_inv h hs n id h' hu
  have hany : (absOf h).any (fun b => b.1 == h[i].1) = true := List.any_eq_true.2 ⟨h[i], List.getElem_mem hi, by simp⟩
  rw [modify_eq_map h hs.nodup i hi, Abs.setBranch, if_pos hany]; rfl

/-- **update-ref**: afterwards the name resolves to the given commit, every other name as before -/
theorem update_lookup (h : Heads) (hs : Sorted h) (n id : Bytes) (h' : Heads) (hu : update h n id = .ok h') :
    Sorted h' ∧ n ∈ names h ∧ ∀ m, lookup h' m = if m = n then some id else lookup h m := by
  obtain ⟨i, hi, hn, hh⟩ := update_inv h hs n id h' hu
  refine ⟨?_, hn ▸ List.mem_map_of_mem (List.getElem_mem hi), fun m => ?_⟩
  · unfold Sorted; rw [hh, names_modify_snd h i id]; exact hs
  · rw [update_refines h hs n id h' hu m]
    by_cases hmn : m = n
    · rw [hmn, find_setBranch_self, if_pos rfl]
    · rw [find_setBranch_other hmn, if_neg hmn]; rfl

/-- **rename**: the new name resolves to the commit the old name had, the old name no longer resolves,
    every other name resolves as before -/
theorem rename_lookup (h : Heads) (hs : Sorted h) (cur new : Bytes) (h' : Heads) (hr : rename h cur new = .ok h') :
    Sorted h' ∧ new ∉ names h ∧
      ∀ m, lookup h' m = if m = new then lookup h cur else if m = cur then none else lookup h m := by
  obtain ⟨hnew, i, hi, rfl, rfl⟩ := rename_inv h hs cur new h' hr
  -- up to order, renaming is: drop the old pair, put the new one in front
  have hperm : (h.modify i (fun p => (new, p.2))).Perm ((new, h[i].2) :: h.eraseIdx i) := by
    rw [List.modify_eq_take_cons_drop hi, List.eraseIdx_eq_take_drop_succ]; exact List.perm_middle
  have hsub := (List.eraseIdx_sublist h i).map (·.1)
  obtain ⟨h1, h2⟩ := sortHeads_cons hperm (hs.nodup.sublist hsub) fun hin => hnew (hsub.subset hin)
  refine ⟨h1, hnew, fun m => ?_⟩
  rw [h2, (lookup_eq_some_iff h hs.nodup h[i].1 h[i].2).2 (List.getElem_mem hi), eraseIdx_eq_filter h hs.nodup i hi]
  exact congrArg (ite _ _) (find_filter ..)

end C10
