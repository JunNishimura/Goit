import GoitProofs.Props.C03Inputs
import GoitProofs.Props.C10Refine
import GoitProofs.Props.C10Faith

/-! C10, completeness: in a state every history reaches the branch commands succeed under the conditions their theorems state.
    Needs one more invariant of histories, kept by every `RefStep`: no two files in `refs/heads` under one name (`W.HN`). -/

namespace W

/-- no two files in `refs/heads` under one name (`heads` is a list of files, so this has to be kept: `RefStep.hn`) -/
def HN (w : World) : Prop := (w.heads.map (·.1)).Nodup

theorem RefStep.hn {H : HashFn} {w w' : World} (h : RefStep H w w') (hn : HN w) : HN w' := by
  induction h with
  | same _ hh _ => unfold HN; rw [hh]; exact hn
  | setBranch n id _ _ _ _ hh _ => unfold HN; rw [hh]; exact nodup_aset _ _ _ hn
  | delBranch n _ _ hh _ => unfold HN; rw [hh]; exact nodup_adel _ _ hn
  | setHead n _ _ hh _ => unfold HN; rw [hh]; exact hn
  | trans _ _ ih1 ih2 => exact ih2 (ih1 hn)

theorem run_hn (H : HashFn) (w : World) (i : Inv) (hc : Conn H w) (hnc : NoClash H w i) (hn : HN w) : HN (run H w i).1 := by
  cases hi : w.inited with
  | true => exact (run_refstep H w i hc hi hnc).hn hn
  | false =>
    -- outside a repository only `init` writes, and it writes no branch file
    have hh : (run H w i).1.heads = w.heads := by
      rcases run_cases H w i with e | e | ⟨_, _, e⟩ | ⟨_, h, _⟩
      · rw [e]
      · rw [e]
      · rw [e]; exact (initCmd_writes H w (P := fun _ => False)).get .heads
      · rw [hi] at h; cases h
    unfold HN; rw [hh]; exact hn

/-- what the loaded branch list gives for a name is what the branch file of that name reads as -/
theorem load_lookup (files : List (Bytes × Bytes)) (refs : Refs.Heads) (h : Refs.load files = some refs)
    (hnd : (files.map (·.1)).Nodup) (n id : Bytes) (hl : Refs.lookup refs n = some id) :
    ∃ raw, aget files n = some raw ∧ readHash raw = some id := by
  obtain ⟨m, rfl, _, key⟩ := refs_load_inv files refs h
  -- (n, id) is in the sorted list, hence in `m`, hence comes from a file named `n` whose content reads as `id`
  unfold Refs.lookup at hl
  obtain ⟨p, hf, rfl⟩ := Option.map_eq_some_iff.mp hl
  have hpn : p.1 = n := by simpa using List.find?_some hf
  obtain ⟨f, hfm, hf1, hf2⟩ := key p ((List.mergeSort_perm m _).mem_iff.mp (List.mem_of_find?_eq_some hf))
  -- names are unique, so the file named `n` that `aget` finds is `f`
  exact ⟨f.2, (C10.lookup_eq_some_iff files hnd n f.2).2 ((hf1.trans hpn) ▸ hfm), hf2⟩

theorem not_loaded_of_no_file (H : HashFn) (w : World) (l : Loaded) (hl : load H w = some l) (n : Bytes) (hnew : aget w.heads n = none) :
    n ∉ Refs.names l.refs := fun hm => by
  have := load_names w.heads l.refs (load_refs H w l hl) n hm
  rw [hnew] at this; cases this

theorem isEmpty_of_valid (n : Bytes) (hv : Refs.validName n = true) : n.isEmpty = false := by
  cases n with
  | nil => simp [Refs.validName] at hv
  | cons a b => rfl

theorem lookup_of_exists (refs : Refs.Heads) (n : Bytes) (he : Refs.exists_ refs n = true) : ∃ id, Refs.lookup refs n = some id := by
  have hm := exists_sound refs n he
  unfold Refs.names at hm
  obtain ⟨p, hp, hpn⟩ := List.mem_map.mp hm
  unfold Refs.lookup
  cases hf : refs.find? (fun q => q.1 == n) with
  | none =>
    have := List.find?_eq_none.mp hf p hp
    simp [hpn] at this
  | some q => exact ⟨q.2, rfl⟩

/-- the loaded branch list is strictly sorted by name when branch names are unique -/
theorem loaded_refs_sorted (H : HashFn) (w : World) (l : Loaded) (hl : load H w = some l) (hn : HN w) : C10.Sorted l.refs := by
  obtain ⟨m, e, hk, _⟩ := refs_load_inv _ _ (load_refs H w l hl)
  rw [e]
  apply C10.sortHeads_sorted
  unfold Refs.names
  rw [hk]; exact hn

end W

namespace C10

/-- branch names stay unique after every history from the empty directory (under the input conditions of `C03.world_fsck`) -/
theorem world_branch_names_unique (H : HashFn) (ss : List W.Step) (hin : W.StepsIn H {} ss) : W.HN (W.runSteps H {} ss) :=
  -- `HN` is carried along `Fsck`, whose `Conn` is what `run_hn` needs
  (W.runSteps_inv H (fun w => W.Fsck H w ∧ W.HN w) (W.StepsIn H)
    (fun w i _ h hin => ⟨⟨W.run_fsck H w i h.1 hin.1, W.run_hn H w i h.1.1 (W.stepOK_of_inputs H w i h.1.1 hin.1).2.2 h.2⟩, hin.2⟩)
    (fun w f d _ h hin => ⟨⟨W.edit_fsck H w f d h.1, h.2⟩, hin⟩) ss {}
    ⟨⟨W.conn_empty H, W.J_empty H, W.K_empty H⟩, by unfold W.HN; simp⟩ hin).2

/-- **`switch <n>` to an existing branch succeeds** (whole-repository model, a state every history reaches: `W.Conn`, unique branch
    names `W.HN`): HEAD names `<n>` afterwards, no branch file changes (`world_switch_spec`), and one `checkout` record naming the
    branch's commit is appended (`C11.world_head0_switch`) -/
theorem world_switch_succeeds (H : HashFn) (w : W.World) (n : Bytes) (tz : Int) (ts : List Int) (l : W.Loaded)
    (hc : W.Conn H w) (hn : W.HN w) (hinit : w.inited = true) (hl : W.load H w = some l) (hex : Refs.exists_ l.refs n = true) :
    (W.run H w ⟨.switch [n] [], tz, ts⟩).2 = .ok none ∧ (W.run H w ⟨.switch [n] [], tz, ts⟩).1.head = some (Head.render n) := by
  obtain ⟨b, hh1, _, _⟩ := hc.head hinit
  have hhd : w.head.isNone = false := by rw [hh1]; rfl
  obtain ⟨id, hlk⟩ := W.lookup_of_exists l.refs n hex
  obtain ⟨raw, hraw, hrh⟩ := W.load_lookup w.heads l.refs (W.load_refs H w l hl) hn n id hlk
  obtain ⟨_, id', hraw', hca⟩ := hc.branches n raw hraw
  have hlen := W.commitAt_len20 H w hc.named id' hca
  have hid : id = id' := by
    rw [hraw', readHash_hashStr id' hlen] at hrh
    injection hrh with hrh; exact hrh.symm
  subst hid
  rw [W.run_loaded H w _ l hinit rfl hl]
  cases hcc : W.commitAt H w id with
  | none => rw [hcc] at hca; cases hca
  | some c =>
    have hok := W.switchTo_succeeds H w l n tz ts id c hex hhd hlk hcc
    exact ⟨hok, (world_switch_spec H w l n tz ts none hok).1⟩

/-- **`branch <n>` succeeds** for a valid name no branch file carries, when HEAD's branch has a commit (whole-repository model,
    unique branch names): the new file holds HEAD's commit (`world_create_spec`) -/
theorem world_branch_create_succeeds (H : HashFn) (w : W.World) (n : Bytes) (tz : Int) (ts : List Int) (l : W.Loaded) (id : Bytes) (c : Commit)
    (hn : W.HN w) (hinit : w.inited = true) (hl : W.load H w = some l) (hh : l.headCommit = some (id, c))
    (hv : Refs.validName n = true) (hnew : W.aget w.heads n = none) :
    (W.run H w ⟨.branch [n] false [] [], tz, ts⟩).2 = .ok none := by
  have hs := W.loaded_refs_sorted H w l hl hn
  have hnot := W.not_loaded_of_no_file H w l hl n hnew
  obtain ⟨h', hadd, _⟩ := add_ok l.refs hs n id hv hnot
  rw [W.run_loaded H w _ l hinit rfl hl]
  exact W.branchCreate_succeeds w l n tz ts id c h' hh hadd

/-- **`branch -d <n>` succeeds** for an existing branch other than the current one whose log is there (whole-repository model,
    unique branch names): exactly that file disappears (`world_delete_spec`) -/
theorem world_branch_delete_succeeds (H : HashFn) (w : W.World) (del : Bytes) (tz : Int) (ts : List Int) (l : W.Loaded)
    (hn : W.HN w) (hinit : w.inited = true) (hl : W.load H w = some l) (hne : del ≠ l.ref) (hd : del ≠ [])
    (hex : del ∈ Refs.names l.refs) (hlog : (W.aget w.logHeads del).isNone = false) :
    (W.run H w ⟨.branch [] false [] del, tz, ts⟩).2 = .ok none := by
  have hs := W.loaded_refs_sorted H w l hl hn
  obtain ⟨i, hi, _, hdel⟩ := delete_ok l.refs hs l.ref del hne hex
  have hde : del.isEmpty = false := by cases del <;> simp_all
  rw [W.run_loaded H w _ l hinit rfl hl]
  rw [show W.exec H w l ⟨.branch [] false [] del, tz, ts⟩ = _ from W.branchCmd_delete w l del tz ts hde]
  exact W.branchDelete_succeeds w l del _ hdel hlog

/-- **`switch -c <n>` succeeds** for a valid name no branch file carries, when HEAD's branch has a commit and HEAD's file is there -/
theorem world_switch_create_succeeds (H : HashFn) (w : W.World) (n : Bytes) (tz : Int) (ts : List Int) (l : W.Loaded) (id : Bytes) (c : Commit)
    (hn : W.HN w) (hinit : w.inited = true) (hl : W.load H w = some l) (hh : l.headCommit = some (id, c))
    (hv : Refs.validName n = true) (hnew : W.aget w.heads n = none) (hhead : w.head.isNone = false) :
    (W.run H w ⟨.switch [] n, tz, ts⟩).2 = .ok none := by
  have hs := W.loaded_refs_sorted H w l hl hn
  have hnot := W.not_loaded_of_no_file H w l hl n hnew
  obtain ⟨h', hadd, _⟩ := add_ok l.refs hs n id hv hnot
  have hne := W.isEmpty_of_valid n hv
  rw [W.run_loaded H w _ l hinit rfl hl]
  rw [show W.exec H w l ⟨.switch [] n, tz, ts⟩ = _ from W.switchCmd_create H w l n tz ts hne]
  exact W.switchCreate_succeeds w l n tz ts id c h' hh hadd hhead

/-- **`branch -r <n>` succeeds** for a valid name no branch file carries, when HEAD's branch exists with a commit, its log is there
    and HEAD's file is there -/
theorem world_branch_rename_succeeds (H : HashFn) (w : W.World) (n : Bytes) (tz : Int) (ts : List Int) (l : W.Loaded) (id : Bytes) (c : Commit)
    (hn : W.HN w) (hinit : w.inited = true) (hl : W.load H w = some l) (hh : l.headCommit = some (id, c))
    (hv : Refs.validName n = true) (hnew : W.aget w.heads n = none) (hcur : l.ref ∈ Refs.names l.refs)
    (hhead : w.head.isNone = false) (hlog : (W.aget w.logHeads l.ref).isNone = false) :
    (W.run H w ⟨.branch [] false n [], tz, ts⟩).2 = .ok none := by
  have hs := W.loaded_refs_sorted H w l hl hn
  have hnot := W.not_loaded_of_no_file H w l hl n hnew
  obtain ⟨i, hi, _, h', hren, _⟩ := rename_ok l.refs hs l.ref n hv hnot hcur
  have hne := W.isEmpty_of_valid n hv
  rw [W.run_loaded H w _ l hinit rfl hl]
  rw [show W.exec H w l ⟨.branch [] false n [], tz, ts⟩ = _ from W.branchCmd_rename w l n tz ts hne]
  exact W.branchRename_succeeds w l n tz ts id c h' hren hh hhead hlog

end C10
