import GoitProofs.Props.C02
import GoitProofs.Props.C06

/-! # C07 — Staged-changes report is exact (index vs. tree diff) -/

namespace C07

open IndexOps TreeBuild

/-- the first half of `DiffWithTree`, as a plain function of the flattened tree -/
def fromTree (es : List Entry) (flat : List Entry) : List DiffEntry :=
  flat.filterMap fun t =>
    match es.find? (fun e => e.path == t.path) with
    | none => some ⟨.deleted, t.id, t.path⟩
    | some e => if e.id = t.id then none else some ⟨.modified, e.id, e.path⟩

theorem diffStep_ok (es : List Entry) (hs : C06.Canonical es) (acc : List DiffEntry) (t : Entry) :
    diffStep es (.ok acc) t = .ok (acc ++ fromTree es [t]) := by
  obtain ⟨h1, h2, _⟩ := C06.getEntry_correct es hs t.path
  by_cases hex : ∃ e ∈ es, e.path = t.path
  · obtain ⟨e, he, hp⟩ := hex
    obtain ⟨i, hi, hei⟩ := List.getElem_of_mem he
    have hpi : es[i].path = t.path := by rw [hei]; exact hp
    have hfind := hpi ▸ find?_key_of_mem Entry.path hs.nodup (List.getElem_mem hi)
    by_cases hid : es[i].id = t.id <;>
      simp [diffStep, Res.bind, h1 i hi hpi, List.getElem?_eq_getElem hi, hid, fromTree, hfind]
  · have hn : ∀ e ∈ es, e.path ≠ t.path := fun e he hp => hex ⟨e, he, hp⟩
    have hfind : es.find? (fun e => e.path == t.path) = none := by
      simp only [List.find?_eq_none, beq_iff_eq]; exact hn
    simp [diffStep, Res.bind, h2 hn, fromTree, hfind]

theorem fromTree_cons (es : List Entry) (t : Entry) (ts : List Entry) :
    fromTree es (t :: ts) = fromTree es [t] ++ fromTree es ts := by
  simp only [fromTree, List.filterMap_cons, List.filterMap_nil]
  split <;> simp

theorem fold_ok (es : List Entry) (hs : C06.Canonical es) (flat : List Entry) (acc : List DiffEntry) :
    flat.foldl (diffStep es) (.ok acc) = .ok (acc ++ fromTree es flat) := by
  induction flat generalizing acc with
  | nil => simp [fromTree]
  | cons t ts ih =>
    rw [List.foldl_cons, diffStep_ok es hs, ih, fromTree_cons es t ts]
    simp [List.append_assoc]

/-- **The deleted / modified part of the report is exact**: on a canonical index, `DiffWithTree` reports
    a tree path as deleted iff it is not staged and as modified iff it is staged with another id —
    computed by the binary search exactly as by a plain scan; it never crashes. The new-file part lists
    the staged paths at which the tree has no file. -/
theorem diff_fromTree (es : List Entry) (hs : C06.Canonical es) (tree : List Node) :
    diffWithTree es tree = .ok (fromTree es (flattenTree tree) ++
      (es.filter (isNew tree)).map fun e => ⟨.new, e.id, e.path⟩) := by
  unfold diffWithTree
  rw [fold_ok es hs]
  simp [Res.map]

/-- with the tree Goit itself wrote from entries `es₀`, the flattened tree *is* `es₀` (C02), so the
    deleted/modified report is computed against exactly the committed snapshot -/
theorem diff_fromTree_build (H : HashFn) (es es₀ : List Entry) (hs : C06.Canonical es) (hok : AllOK es₀) :
    diffWithTree es (build H (fuelFor es₀) es₀) = .ok (fromTree es es₀ ++
      (es.filter (isNew (build H (fuelFor es₀) es₀))).map fun e => ⟨.new, e.id, e.path⟩) := by
  have := diff_fromTree es hs (build H (fuelFor es₀) es₀)
  rwa [C02.flatten_writeTree H es₀ hok] at this

/-- nothing deleted and nothing modified iff every committed entry is staged unchanged -/
theorem fromTree_nil_iff (es flat : List Entry) :
    fromTree es flat = [] ↔ ∀ t ∈ flat, ∃ e, es.find? (fun e => e.path == t.path) = some e ∧ e.id = t.id := by
  induction flat with
  | nil => simp [fromTree]
  | cons t ts ih =>
    simp only [fromTree, List.filterMap_cons] at ih ⊢
    cases hf : es.find? (fun e => e.path == t.path) with
    | none => simp [hf]
    | some e =>
      by_cases hid : e.id = t.id
      · simp only [hid, if_true, List.mem_cons, forall_eq_or_imp]
        rw [ih]
        simp [hf, hid]
      · simp [hid, hf]

/-- the repaired lookup: siblings that sort between `test` and `test/` do not hide the directory,
    and a file is not mistaken for a directory prefix (both failed on the pinned code) -/
example :
    let tree := [Node.mk (asc "test-data") [1] [], Node.mk (asc "test.c") [2] [], Node.mk (asc "test") [3] [Node.mk (asc "x") [4] []]]
    (getNode tree (asc "test/x")).isSome = true ∧ (getNode tree (asc "test.c/y")).isSome = false := by decide +kernel

end C07
