import GoitModel.Cmds
import GoitProofs.Props.C11

/-! # C08 — reset moves exactly what each mode promises (argument grammar, position lookup, mode table) -/

namespace C08

open Reflog

def pre : Bytes := asc "HEAD@{"

/-- **Every well-formed position is accepted**: `HEAD@{<digits>}` with one or more digits (the pinned
    pattern allowed a single digit only) resolves to the number written. -/
theorem accepts (ds : Bytes) (hne : ds ≠ []) (hd : ds.all Dec.isDigit = true) (hv : Dec.value ds ≤ Fmt.int64Max) :
    parseResetArg (pre ++ ds ++ [125]) = some (Dec.value ds) := by
  unfold parseResetArg
  rw [List.append_assoc]
  simp only [pre, Bytes.hasPrefix_append_self, if_true, List.drop_left' rfl]
  have h3 : (ds ++ [125]).reverse = 125 :: ds.reverse := by simp
  rw [h3]
  simp only [List.reverse_reverse, hne, ne_eq, not_false_eq_true, hd, and_self, if_true, Fmt.parseInt_digits ds hne hd, hv]
  simp

theorem accepts_number (n : Nat) (hn : n ≤ Fmt.int64Max) : parseResetArg (pre ++ Dec.ofNat n ++ [125]) = some n := by
  have := accepts (Dec.ofNat n) (Dec.ofNat_ne_nil n) (List.all_eq_true.2 (Dec.ofNat_all_digits n))
    (by rw [Dec.value_ofNat]; exact hn)
  rwa [Dec.value_ofNat] at this

/-- **Nothing else is accepted**: an accepted argument is exactly `HEAD@{` + digits + `}` — anchored on
    both sides (the pinned pattern accepted `xHEAD@{1}HEAD@{3}`) — and the position is the number written. -/
theorem accepted_shape (a : Bytes) (n : Nat) (h : parseResetArg a = some n) :
    ∃ ds, a = pre ++ ds ++ [125] ∧ ds ≠ [] ∧ ds.all Dec.isDigit = true ∧ n = Dec.value ds := by
  unfold parseResetArg at h
  dsimp only at h
  split at h
  next hp =>
    obtain ⟨body, rfl⟩ := (Bytes.hasPrefix_iff _ _).1 hp
    rw [List.drop_left' rfl] at h
    split at h
    next rd hr =>
      have hbody : body = rd.reverse ++ [125] := by simpa using congrArg List.reverse hr
      split at h
      next hok =>
        rw [Fmt.parseInt_digits _ hok.1 hok.2] at h
        by_cases hle : Dec.value rd.reverse ≤ Fmt.int64Max
        · rw [if_pos hle] at h
          exact ⟨rd.reverse, by rw [hbody, pre, List.append_assoc], hok.1, hok.2, by simpa using h.symm⟩
        · rw [if_neg hle] at h; cases h
      · cases h
    · cases h
  · cases h

/-- **`reset HEAD@{n}` lands on the entry `reflog` displays at position n** (re-exported from C11) and a
    position out of range is refused. -/
theorem position_agrees (rs : List Loaded) (n : Nat) (hn : n < rs.length) :
    ∃ r, Reflog.get rs n = some r ∧ (listing rs)[n]? = some (n, show7 r.hash, r.kind, r.msg) :=
  C11.get_agrees_with_listing rs n hn

theorem out_of_range_refused (rs : List Loaded) (n : Nat) (hn : rs.length ≤ n) : Reflog.get rs n = none :=
  C11.get_out_of_range rs n hn

open Cmds in
/-- the whole decision table (8 flag combinations), by the kernel -/
theorem mode_table :
    modeOf false true false = some (false, true, false) ∧   -- default: mixed
    modeOf true true false = some (true, false, false) ∧    -- --soft
    modeOf false true true = some (false, false, true) ∧    -- --hard
    modeOf true true true = none ∧                          -- --soft --hard: refused
    modeOf false false false = none ∧                       -- --mixed=false alone: refused
    modeOf true false false = some (true, false, false) ∧
    modeOf false false true = some (false, false, true) ∧
    modeOf true false true = none := by decide

example : parseResetArg (asc "HEAD@{10}") = some 10 ∧ parseResetArg (asc "xHEAD@{1}HEAD@{3}") = none ∧
    parseResetArg (asc "HEAD@{}") = none ∧ parseResetArg (asc "HEAD@{1}x") = none := by decide +kernel

end C08
