import GoitModel.Cmds
import GoitProofs.Props.C07Tree

/-! # C13 — Working-tree report is exact and content-based

Theorems about `Cmds.status`, the Lean model of `cmd/status.go`. -/

namespace C13

open Cmds

variable (H : HashFn)

/-- on a canonical staging area `status` always produces a report (it cannot fail or crash in the lookups) -/
theorem status_ok (w : WS) (hs : C06.Canonical w.index) : ∃ st, status H w = .ok st := by
  unfold status
  simp only [C07.diff_fromTree w.index hs]
  exact ⟨_, rfl⟩

theorem status_eq {w : WS} {st : Status} (h : status H w = .ok st) :
    IndexOps.diffWithTree w.index (TreeBuild.build H (TreeBuild.fuelFor w.snap) w.snap) = .ok st.staged ∧
    st.modified = (w.index.filter fun e => (fileAt w e.path).any (Obj.id H .blob · != e.id)).map (·.path) ∧
    st.deleted = (w.index.filter fun e => !existsOnDisk w e.path).map (·.path) ∧
    st.untracked = (walkIgn w).filter fun p => !IndexOps.found w.index p := by
  simp only [status] at h
  split at h <;> cases h
  exact ⟨by assumption, congrArg _ (List.filter_congr fun e _ => by cases fileAt w e.path <;> rfl), rfl, rfl⟩

/-- **`modified` = exactly the tracked files on disk whose bytes hash to a different blob id.** -/
theorem modified_iff (w : WS) (st : Status) (h : status H w = .ok st) (p : Bytes) :
    p ∈ st.modified ↔ ∃ e ∈ w.index, e.path = p ∧ ∃ data, fileAt w p = some data ∧ Obj.id H .blob data ≠ e.id := by
  rw [(status_eq H h).2.1]
  simp only [List.mem_map, List.mem_filter, Option.any_eq_true, bne_iff_ne]
  constructor
  · rintro ⟨e, ⟨he, hc⟩, rfl⟩
    exact ⟨e, he, rfl, hc⟩
  · rintro ⟨e, he, rfl, hc⟩
    exact ⟨e, ⟨he, hc⟩, rfl⟩

/-- **A file whose bytes equal its staged blob is never reported** — rewriting it with identical bytes
    or touching it changes neither bytes nor id (time stamps are not even an input of the model). -/
theorem same_bytes_not_modified (w : WS) (st : Status) (h : status H w = .ok st) (hs : C06.Canonical w.index)
    (e : Entry) (he : e ∈ w.index) (data : Bytes) (hf : fileAt w e.path = some data) (hid : e.id = Obj.id H .blob data) :
    e.path ∉ st.modified := by
  intro hm
  obtain ⟨e', he', hp, data', hf', hne⟩ := (modified_iff H w st h e.path).mp hm
  cases C06.canonical_inj _ hs e' e he' he hp
  rw [hf] at hf'
  cases hf'
  exact hne hid.symm

/-- **`deleted` = exactly the tracked paths with nothing at that path** (neither a file nor a directory;
    a path below a regular file counts as missing). -/
theorem deleted_iff (w : WS) (st : Status) (h : status H w = .ok st) (p : Bytes) :
    p ∈ st.deleted ↔ ∃ e ∈ w.index, e.path = p ∧ existsOnDisk w p = false := by
  rw [(status_eq H h).2.2.1]
  simp only [List.mem_map, List.mem_filter, Bool.not_eq_true']
  constructor
  · rintro ⟨e, ⟨he, hc⟩, rfl⟩
    exact ⟨e, he, rfl, hc⟩
  · rintro ⟨e, he, rfl, hc⟩
    exact ⟨e, ⟨he, hc⟩, rfl⟩

/-- **`untracked` = exactly the files on disk that are not tracked and that the ignore-filtered walk
    reaches** (no parent directory and not the file itself is ignored; Goit's own directory is not
    among `files` at all). -/
theorem untracked_iff (w : WS) (st : Status) (h : status H w = .ok st) (p : Bytes) :
    p ∈ st.untracked ↔ (∃ f ∈ w.files, f.1 = p) ∧ IndexOps.found w.index p = false ∧
      ignored w p = false ∧ ∀ d ∈ dirPrefixes p, ignored w d = false := by
  rw [(status_eq H h).2.2.2]
  simp only [walkIgn, List.mem_filter, List.mem_map, Bool.and_eq_true, List.all_eq_true, Bool.not_eq_true']
  constructor
  · rintro ⟨⟨f, ⟨hf, hd, hi⟩, rfl⟩, hnf⟩
    exact ⟨⟨f, hf, rfl⟩, hnf, hi, hd⟩
  · rintro ⟨⟨f, hf, rfl⟩, hnf, hi, hd⟩
    exact ⟨⟨f, ⟨hf, hd, hi⟩, rfl⟩, hnf⟩

end C13

/-! ### C07 at command level: the "Changes to be committed" section of `status` is exact -/

namespace C07

open Cmds TreeBuild C06

/-- **`status` lists under "Changes to be committed" exactly the differences between the staging area and
    HEAD's snapshot**: a snapshot path that is not staged is `deleted`, one staged with another id is
    `modified`, a staged path the snapshot does not hold is `new file` — and nothing else; for every canonical,
    well-formed staging area and snapshot, whatever the names. -/
theorem status_staged_exact (H : HashFn) (w : WS) (st : Status) (h : status H w = .ok st)
    (hs : Canonical w.index) (hok : AllOK w.index) (hs0 : Canonical w.snap) (hok0 : AllOK w.snap) :
    st.staged = fromTree w.index w.snap ++
      (w.index.filter (fun e => decide (∀ t ∈ w.snap, t.path ≠ e.path))).map fun e => ⟨.new, e.id, e.path⟩ :=
  Res.ok.inj ((C13.status_eq H h).1.symm.trans (diff_exact H w.index w.snap hs hok hs0 hok0))

/-- immediately after a commit (staging area = snapshot) the section is empty -/
theorem status_clean_after_commit (H : HashFn) (w : WS) (st : Status) (h : status H w = .ok st)
    (hs : Canonical w.index) (hok : AllOK w.index) (heq : w.snap = w.index) : st.staged = [] :=
  Res.ok.inj ((C13.status_eq H h).1.symm.trans ((diff_nil_iff H w.index w.snap hs hok (heq ▸ hs) (heq ▸ hok)).2 heq.symm))

end C07
