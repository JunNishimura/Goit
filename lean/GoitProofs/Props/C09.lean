import GoitProofs.Props.C04Cmd

/-! # C09 — `restore` (working tree) and `restore --staged` on the command models

`Cmds.restoreWork` models `cmd/restore.go` (repaired code: arguments are classified with the staging area, never by
walking the disk), `Cmds.restoreStagedArgs` its `--staged` branch. Both are compared with the real command on every
`restore` of the generated histories (for `--staged`: resulting staging area and success/refusal). -/

namespace C09

open Cmds IndexOps

theorem restoreWork_eq (w : WS) (args : List Bytes) :
    restoreWork w args =
      if args.all (fun a => found w.index (cleanPath a) || isDir w.index (cleanPath a)) then
        .ok (args.flatMap fun a => if isDir w.index (cleanPath a) then byDir w.index (cleanPath a)
          else w.index.filter (fun e => e.path == cleanPath a))
      else .err := by
  induction args with
  | nil => rfl
  | cons a rest ih =>
    simp only [restoreWork, ih, List.all_cons, List.flatMap_cons]
    cases found w.index (cleanPath a) || isDir w.index (cleanPath a) <;> cases List.all rest _ <;> rfl

/-- **restore changes no other file**: every path it rewrites is a tracked entry (with its staged id) -/
theorem restore_only_tracked (w : WS) (args : List Bytes) (r : List Entry) (h : restoreWork w args = .ok r) :
    ∀ e ∈ r, e ∈ w.index := by
  rw [restoreWork_eq] at h
  cases (Res.of_ite_err h).2
  intro e he
  obtain ⟨a, _, ha⟩ := List.mem_flatMap.1 he
  split at ha <;> exact (List.mem_filter.1 ha).1

/-- **restore restores every tracked file beneath a named directory, whether or not it exists on disk**
    (the model never looks at the disk), and a named tracked file -/
theorem restore_named (w : WS) (args : List Bytes) (r : List Entry) (h : restoreWork w args = .ok r) :
    ∀ a ∈ args, ∀ e ∈ w.index, (C06.Beneath (cleanPath a) e.path ∨ (e.path = cleanPath a ∧ isDir w.index (cleanPath a) = false)) → e ∈ r := by
  rw [restoreWork_eq] at h
  cases (Res.of_ite_err h).2
  intro a ha e he hc
  refine List.mem_flatMap.2 ⟨a, ha, ?_⟩
  rcases hc with hb | ⟨hp, hnd⟩
  · rw [if_pos ((C06.isDir_iff _ _).2 ⟨e, he, hb⟩)]
    exact (C06.mem_byDir _ _ _).2 ⟨he, hb⟩
  · rw [hnd]
    exact List.mem_filter.2 ⟨he, beq_iff_eq.2 hp⟩

/-- **A path known neither as a tracked file nor as a tracked directory is refused.** -/
theorem restore_unknown_refused (w : WS) (a : Bytes) (rest : List Bytes)
    (h1 : found w.index (cleanPath a) = false) (h2 : isDir w.index (cleanPath a) = false) :
    restoreWork w (a :: rest) = .err := by
  simp [restoreWork, h1, h2]

/-! ### `restore --staged`: the staged entry of every named path becomes its HEAD entry -/

open C06 C04

theorem mem_snap_iff (snap : List Entry) (hs : Canonical snap) (e : Entry) :
    e ∈ snap ↔ snapId snap e.path = some e.id := by
  unfold snapId
  refine ⟨fun he => by rw [find?_key_of_mem Entry.path hs.nodup he]; rfl, fun h => ?_⟩
  obtain ⟨x, hf, hid⟩ := Option.map_eq_some_iff.1 h
  have hp : x.path = e.path := by simpa using List.find?_some hf
  have : x = e := by cases x; cases e; simp only [Entry.mk.injEq]; exact ⟨hid, hp⟩
  exact this ▸ List.mem_of_find?_eq_some hf

/-- entries of the staging area at path `p` -/
def AtPath (p : Bytes) (e : Entry) : Prop := e.path = p

/-- **one path**: afterwards the staged entries at `p` are exactly HEAD's entries at `p` (none if HEAD has
    none), every other path is as before, and the staging area is canonical -/
theorem restoreIndexOne_spec (idx snap : List Entry) (hi : Canonical idx) (hs : Canonical snap) (p : Bytes)
    (idx' : List Entry) (h : restoreIndexOne idx snap p = .ok idx') :
    Canonical idx' ∧ (∀ e : Entry, e.path = p → (e ∈ idx' ↔ e ∈ snap)) ∧
      (∀ e : Entry, e.path ≠ p → (e ∈ idx' ↔ e ∈ idx)) := by
  unfold restoreIndexOne at h
  cases hsn : snapId snap p with
  | some id =>
    obtain ⟨ch, es', hu, hm⟩ := update_spec idx hi id p
    simp only [hsn, hu, Res.map, Res.ok.injEq] at h
    subst h
    refine hm.source fun e hep => ?_
    subst hep
    rw [mem_snap_iff snap hs, hsn, List.mem_singleton]
    cases e; simp [eq_comm]
  | none =>
    simp only [hsn] at h
    refine (delete_spec idx hi p idx' (Res.of_ite_err h).2).source fun e hep => ?_
    subst hep
    rw [mem_snap_iff snap hs, hsn]; simp

/-- a path known to neither the staging area nor HEAD is refused; nothing else is -/
theorem restoreIndexOne_refused_iff (idx snap : List Entry) (hi : Canonical idx) (p : Bytes) :
    (∀ idx', restoreIndexOne idx snap p ≠ .ok idx') ↔ (snapId snap p = none ∧ found idx p = false) := by
  unfold restoreIndexOne
  cases hsn : snapId snap p with
  | some id =>
    obtain ⟨ch, es', hu, _⟩ := update_spec idx hi id p
    simp only [hu, Res.map]
    exact ⟨fun h => absurd rfl (h es'), fun h => nomatch h.1⟩
  | none =>
    cases hf : found idx p with
    | false => simp
    | true =>
      rcases getEntry_cases idx hi p with ⟨i, _, _, hg⟩ | ⟨_, hg⟩
      · simp [delete, hg]
      · simp [found, hg] at hf

theorem rsFold_spec (snap : List Entry) (hs : Canonical snap) (ps : List Bytes) (idx : List Entry) (hi : Canonical idx)
    (idx' : List Entry) (h : rsFold snap ps idx = (true, idx')) :
    Canonical idx' ∧ (∀ e : Entry, e.path ∈ ps → (e ∈ idx' ↔ e ∈ snap)) ∧
      (∀ e : Entry, e.path ∉ ps → (e ∈ idx' ↔ e ∈ idx)) := by
  fun_induction rsFold snap ps idx with
  | case1 => cases h; exact ⟨hi, fun _ h => (nomatch h), fun _ _ => Iff.rfl⟩
  | case2 p ps idx idx1 hr ih =>
    -- the conclusions of `restoreIndexOne_spec` and of this theorem are `C04.Mix` written out: the ascriptions are by unfolding
    have h1 : Mix (· = p) snap idx idx1 := restoreIndexOne_spec idx snap hi hs p idx1 hr
    exact (h1.trans (ih h1.1 h)).congr fun _ => List.mem_cons.symm
  | case3 => cases h

theorem mem_dirArgPaths (idx snap : List Entry) (p q : Bytes) :
    q ∈ (if (snap.any (fun t => under p t.path) || isDir idx p) = true then stagedDirPaths idx snap p else []) ↔
      ∃ x : Entry, (x ∈ idx ∨ x ∈ snap) ∧ Beneath p x.path ∧ x.path = q := by
  split
  · simp only [stagedDirPaths, List.mem_append, List.mem_map, mem_byDir, List.mem_filter, under_iff, or_and_right,
      exists_or, and_assoc]
  · rename_i hd
    simp only [Bool.or_eq_true, List.any_eq_true, isDir_iff, under_iff, not_or, not_exists, not_and] at hd
    simp only [List.not_mem_nil, false_iff]
    rintro ⟨x, hx | hx, hb, _⟩
    · exact hd.2 x hx hb
    · exact hd.1 x hx hb

theorem rsFold_dir (snap : List Entry) (hs : Canonical snap) (idx : List Entry) (hi : Canonical idx) (p : Bytes)
    (idx1 : List Entry)
    (h : rsFold snap (if (snap.any (fun t => under p t.path) || isDir idx p) = true then stagedDirPaths idx snap p else [])
      idx = (true, idx1)) : Mix (Beneath p) snap idx idx1 := by
  refine Mix.widen (rsFold_spec snap hs _ idx hi idx1 h) (fun q hq => ?_) fun e hb hin => ?_
  · obtain ⟨_, _, hb, rfl⟩ := (mem_dirArgPaths idx snap p q).1 hq; exact hb
  · exact ⟨fun he => absurd ((mem_dirArgPaths idx snap p _).2 ⟨e, Or.inl he, hb, rfl⟩) hin,
      fun he => absurd ((mem_dirArgPaths idx snap p _).2 ⟨e, Or.inr he, hb, rfl⟩) hin⟩

/-- the paths an argument names: the path itself and everything beneath it -/
def Named (args : List Bytes) (q : Bytes) : Prop := ∃ a ∈ args, q = cleanPath a ∨ Beneath (cleanPath a) q

theorem named_cons (a : Bytes) (rest : List Bytes) (q : Bytes) :
    Named (a :: rest) q ↔ (Beneath (cleanPath a) q ∨ q = cleanPath a) ∨ Named rest q := by
  simp [Named, or_comm]

/-- **`restore --staged args`**: if it succeeds, the staged entry of every named path — the path itself and,
    for a directory, every path beneath it that is staged or in HEAD — equals its entry in the HEAD snapshot
    (removed if HEAD has none, re-created if it had been unstaged), and every other entry is unchanged.
    For every canonical staging area, every canonical snapshot and every argument list. -/
theorem restoreStaged_exact (snap : List Entry) (hs : Canonical snap) (args : List Bytes) (idx : List Entry)
    (hi : Canonical idx) (idx' : List Entry) (h : restoreStagedArgs snap args idx = (true, idx')) :
    Canonical idx' ∧ (∀ e : Entry, Named args e.path → (e ∈ idx' ↔ e ∈ snap)) ∧
      (∀ e : Entry, ¬ Named args e.path → (e ∈ idx' ↔ e ∈ idx)) := by
  -- the cases of `restoreStagedArgs`: 1 no argument left, 2 the directory part fails, 3 a file argument (4: it fails),
  -- 5 neither file nor directory, 6 a directory only
  fun_induction restoreStagedArgs snap args idx with
  | case1 => cases h; exact ⟨hi, fun _ ⟨_, h, _⟩ => (nomatch h), fun _ _ => Iff.rfl⟩
  | case3 a rest idx p isDirArg isFileArg idx1 hfold _ idx2 hr ih =>
    have h1 := rsFold_dir snap hs idx hi p idx1 hfold
    have h2 : Mix (· = p) snap idx1 idx2 := restoreIndexOne_spec idx1 snap h1.1 hs p idx2 hr
    exact ((h1.trans h2).trans (ih h2.1 h)).congr fun _ => (named_cons _ _ _).symm
  | case6 a rest idx p isDirArg isFileArg idx1 hfold hf _ ih =>
    have h1 := rsFold_dir snap hs idx hi p idx1 hfold
    refine ((h1.widen (fun _ => Or.inl) fun e he hb => ?_).trans (ih h1.1 h)).congr fun _ => (named_cons _ _ _).symm
    -- the path itself is neither staged nor in HEAD
    have hp : e.path = p := he.resolve_left hb
    simp only [isFileArg, Bool.or_eq_true, not_or] at hf
    exact ⟨fun he => absurd ((found_iff idx hi p).2 ⟨e, he, hp⟩) hf.1,
      fun he => absurd (by rw [← hp, (mem_snap_iff snap hs e).1 he]; rfl) hf.2⟩
  | _ => cases h

/-- **A path known to neither the staging area nor HEAD is refused**, and the staging area is left as it was -/
theorem restoreStaged_unknown_refused (snap idx : List Entry) (hi : Canonical idx) (a : Bytes) (rest : List Bytes)
    (h1 : ∀ e ∈ idx, e.path ≠ cleanPath a ∧ ¬ Beneath (cleanPath a) e.path)
    (h2 : ∀ e ∈ snap, e.path ≠ cleanPath a ∧ ¬ Beneath (cleanPath a) e.path) :
    restoreStagedArgs snap (a :: rest) idx = (false, idx) := by
  have hd1 : snap.any (fun t => under (cleanPath a) t.path) = false :=
    List.any_eq_false.2 fun t ht hu => (h2 t ht).2 ((under_iff _ _).1 hu)
  have hd2 : isDir idx (cleanPath a) = false :=
    List.any_eq_false.2 fun t ht hu => (h1 t ht).2 ((under_iff _ _).1 hu)
  have hf1 : found idx (cleanPath a) = false :=
    Bool.eq_false_iff.2 fun hx => let ⟨e, he, hp⟩ := (found_iff idx hi _).1 hx; (h1 e he).1 hp
  have hf2 : snapId snap (cleanPath a) = none := by
    simp only [snapId, Option.map_eq_none_iff, List.find?_eq_none, beq_iff_eq]
    exact fun e he => (h2 e he).1
  simp only [restoreStagedArgs, hd1, hd2, hf1, hf2, rsFold, Bool.or_self, Bool.false_eq_true, if_false,
    Option.isSome_none, Bool.not_false, if_true]

/-! non-vacuity: HEAD holds a file and a directory `t`; `t/x` had been unstaged and `n` newly staged -/
section Examples
def exSnap : List Entry := [⟨[1], asc "t"⟩, ⟨[2], asc "t/x"⟩, ⟨[3], asc "u"⟩]
def exIdx : List Entry := [⟨[9], asc "n"⟩, ⟨[1], asc "t"⟩, ⟨[7], asc "u"⟩]
example : restoreStagedArgs exSnap [asc "n", asc "./t"] [⟨[9], asc "n"⟩, ⟨[1], asc "t"⟩, ⟨[2], asc "t/x"⟩] = (true, [⟨[1], asc "t"⟩, ⟨[2], asc "t/x"⟩]) := by
  decide +kernel
example : (restoreStagedArgs exSnap [asc "zz"] exIdx).1 = false := by decide +kernel
end Examples

end C09
