import GoitModel.CmdsConfig
import GoitProofs.Props.C06
import GoitProofs.Props.C10
import GoitProofs.Props.C19

/-! C18, the mechanisms: every loop of the model is structural or carries a termination proof accepted by Lean (the binary
    search `bsearch`, the tree reader and writer on fuel, the regexp-free matchers); and the remaining *explicit* crash
    outcomes cannot occur: a search never leaves its slice, whatever the keys, so the lookups, `Index.Update`, `DeleteEntry`,
    the branch-list operations the commands call (`add`, `rename`, `delete`) and the command model of `commit` never answer `crash`.
    The general facts carry the model's namespace; under `C18` they are stated again (as in C19, C08, C03, C15, C02 for
    theirs) because the axiom audit and the harness list a property's theorems by its namespace `Cxx`. -/

theorem IndexOps.getEntry_found_lt (es : List Entry) (p : Bytes) (i : Nat) (h : IndexOps.getEntry es p = .found i) : i < es.length := by
  simpa [IndexOps.paths] using (List.getElem?_eq_some_iff.mp (bsearchTop_sound _ _ _ h)).1

theorem IndexOps.update_no_crash (es : List Entry) (id p : Bytes) : IndexOps.update es id p ≠ .crash := by
  unfold IndexOps.update
  split
  · exact fun _ => bsearchTop_no_crash _ _ ‹_›
  · rw [List.getElem?_eq_getElem (IndexOps.getEntry_found_lt es p _ ‹_›)]
    dsimp only; split <;> nofun
  · nofun

theorem IndexOps.delete_no_crash (es : List Entry) (p : Bytes) : IndexOps.delete es p ≠ .crash := by
  unfold IndexOps.delete
  split
  · exact fun _ => bsearchTop_no_crash _ _ ‹_›
  · nofun
  · nofun

theorem Refs.add_no_crash (h : Refs.Heads) (n id : Bytes) : Refs.add h n id ≠ .crash := by
  unfold Refs.add
  split
  · nofun
  · split
    · exact fun _ => bsearchTop_no_crash _ _ ‹_›
    · nofun
    · nofun

theorem Refs.rename_no_crash (h : Refs.Heads) (c n : Bytes) : Refs.rename h c n ≠ .crash := by
  unfold Refs.rename
  split
  · nofun
  · split
    · exact fun _ => bsearchTop_no_crash _ _ ‹_›
    · nofun
    · split
      · exact fun _ => bsearchTop_no_crash _ _ ‹_›
      · nofun
      · nofun

theorem Refs.delete_no_crash (h : Refs.Heads) (c d : Bytes) : Refs.delete h c d ≠ .crash := by
  unfold Refs.delete
  split
  · nofun
  · split
    · exact fun _ => bsearchTop_no_crash _ _ ‹_›
    · nofun
    · nofun

theorem Cmds.commitMake_no_crash (H : HashFn) (ci : Cmds.CommitIn) (n e : Bytes) : Cmds.commitMake H ci n e ≠ .crash := by
  unfold Cmds.commitMake; split <;> nofun

/-- the command model of `commit`: a comparison that fails, for whatever reason, is a refusal -/
theorem Cmds.commitCmd_no_crash (H : HashFn) (ci : Cmds.CommitIn) : Cmds.commitCmd H ci ≠ .crash := by
  -- the splits are written out: `repeat' split` goes on into `diffWithTree` and does not come back
  unfold Cmds.commitCmd
  split
  · unfold Cmds.commitWith
    split
    · nofun
    · split
      · split
        · nofun
        · exact Cmds.commitMake_no_crash _ _ _ _
      · split
        · nofun
        · split
          · nofun
          · exact Cmds.commitMake_no_crash _ _ _ _
          · nofun
  · nofun

theorem Cmds.configCmd_no_crash (f : Option Bytes) (k v : Bytes) : Cmds.configCmd f k v ≠ .crash := by
  unfold Cmds.configCmd
  split
  · nofun
  · split <;> nofun

namespace C18

/-- lookups in the staging area never run out of range -/
theorem getEntry_never_crashes (es : List Entry) (p : Bytes) :
    IndexOps.getEntry es p ≠ .crash := bsearchTop_no_crash _ _

-- the hypothesis `hs` of the next three theorems is not needed: the general forms above hold of any list
set_option linter.unusedVariables false in
/-- lookups in the branch list never run out of range -/
theorem getBranchPos_never_crashes (h : Refs.Heads) (hs : C10.Sorted h) (n : Bytes) :
    Refs.getBranchPos h n ≠ .crash := bsearchTop_no_crash _ _

set_option linter.unusedVariables false in
/-- `Index.Update` / `DeleteEntry` never crash on a canonical index -/
theorem update_never_crashes (es : List Entry) (hs : C06.Canonical es) (id p : Bytes) :
    IndexOps.update es id p ≠ .crash := IndexOps.update_no_crash es id p

set_option linter.unusedVariables false in
theorem delete_never_crashes (es : List Entry) (hs : C06.Canonical es) (p : Bytes) :
    IndexOps.delete es p ≠ .crash := IndexOps.delete_no_crash es p

/-- reading an object never crashes for a non-empty id (ids come from 40-digit hashes: 20 bytes) -/
theorem get_never_crashes (H : HashFn) (s : Store) (id : Bytes) (h : id.length = 20) : Store.get H s id ≠ .crash := by
  intro hc
  have := (C19.get_crash_iff H s id).mp hc
  rw [this] at h; cases h

end C18
