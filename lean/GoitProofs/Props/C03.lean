import GoitProofs.Props.C19

/-! # C03 — Connectivity (object-store part): nothing stored disappears or changes, and what a
command is about to reference is present once it has been written -/

namespace C03

/-- an id is readable: the file exists, is well formed and is named after its content -/
def Present (H : HashFn) (s : Store) (id : Bytes) : Prop := ∃ kd, Store.get H s id = .ok kd

/-- **No command deletes a stored object or changes its content**: every object that could be read
    before a write (`Object.Write` is the only mutator of the store) reads back with the same kind and
    bytes afterwards. -/
theorem put_monotone (H : HashFn) (s : Store) (k : Kind) (d : Bytes) (id : Bytes) (x : Kind × Bytes)
    (hcf : CollisionFreeOn H (fun b => b = Obj.encode k d ∨ s id = some b))
    (h : Store.get H s id = .ok x) : Store.get H (Store.put H s k d) id = .ok x :=
  C01.put_frame H s k d id x hcf h

/-- once written, an object is present under its id (objects are written before the ref that names them) -/
theorem put_present (H : HashFn) (s : Store) (k : Kind) (d : Bytes) (hk : k ≠ .undefined) (hd : d.length ≤ Fmt.int64Max) :
    Present H (Store.put H s k d) (Obj.id H k d) := ⟨(k, d), C01.get_put H s k d hk hd⟩

/-- **Every stored object's name is the hash of its content**: an object that reads back at all does so
    under the hash of the bytes in its file -/
theorem name_is_hash (H : HashFn) (s : Store) (id : Bytes) (h : Present H s id) :
    ∃ content, s id = some content ∧ H.sha content = id := by
  obtain ⟨kd, hkd⟩ := h
  obtain ⟨c, h1, h2, _⟩ := C19.get_returns_requested H s id kd hkd
  exact ⟨c, h1, h2⟩

/-- the sequence of writes of `writeTreeObject` + the commit object: all earlier objects stay present -/
theorem puts_monotone (H : HashFn) (s : Store) (ws : List (Kind × Bytes)) (id : Bytes) (x : Kind × Bytes)
    (hcf : ∀ (k : Kind) (d : Bytes), (k, d) ∈ ws → ∀ s' : Store, CollisionFreeOn H (fun b => b = Obj.encode k d ∨ s' id = some b))
    (h : Store.get H s id = .ok x) :
    Store.get H (ws.foldl (fun st w => Store.put H st w.1 w.2) s) id = .ok x :=
  List.foldlRecOn (motive := fun st => Store.get H st id = .ok x) ws _ h fun st hst w hw =>
    put_monotone H st w.1 w.2 id x (hcf w.1 w.2 hw st) hst

/-- `update-ref` (repaired) only accepts an id that reads back as a commit -/
def acceptsAsBranchTarget (H : HashFn) (s : Store) (id : Bytes) : Bool :=
  match Store.get H s id with
  | .ok (.commit, _) => true
  | _ => false

theorem branch_target_present (H : HashFn) (s : Store) (id : Bytes) (h : acceptsAsBranchTarget H s id = true) :
    ∃ d, Store.get H s id = .ok (.commit, d) := by
  unfold acceptsAsBranchTarget at h
  split at h
  · rename_i d heq; exact ⟨d, heq⟩
  · cases h

end C03
