import GoitProofs.Props.C03Conn
import GoitProofs.Props.C08World

/-! C11 `head0` at byte level on the whole-repository model: after a successful `commit`, `reset`, `switch`, `switch -c` or
    `branch -r`, the **last record** of `logs/HEAD` names, as its new id, the commit the branch HEAD names now holds. -/

namespace W

open Reflog

/-- the log of `w'` is the log of `w` followed by some lines and then the line of `r` -/
def LastRec (w w' : World) (r : Rec) : Prop :=
  ∃ pre, w'.logHead = some (w.logHead.getD [] ++ pre ++ Reflog.format r)

-- the five results carry the property's namespace (`_root_.C11.`); they are stated inside `W`, whose sub-commands and primitives they name

/-- **head0, byte level**: after a successful `commit` the last record of `logs/HEAD` is a `commit` record with the message given
    whose new id is the commit the branch HEAD names now holds -/
theorem _root_.C11.world_head0_commit (H : HashFn) (w : World) (l : Loaded) (id data msg : Bytes) (tz : Int) (ts : List Int) (o : Option Bytes)
    (h : (commitWrite H w l id data msg tz ts).2 = .ok o) :
    ∃ r, LastRec w (commitWrite H w l id data msg tz ts).1 r ∧ r.to = some id ∧ r.kind = .commit ∧ r.msg = msg ∧
      (commitWrite H w l id data msg tz ts).1.head = some (Head.render l.ref) ∧
      aget (commitWrite H w l id data msg tz ts).1.heads l.ref = some (hashStr id) := by
  have hlh : (commitStore H w l.idx id data).logHead = w.logHead := by rw [putObj_logHead', putObjs_logHead']
  revert h; rw [commitWrite_eq]; split <;> intro h
  · cases h
  · cases h
  · generalize commitStore H w l.idx id data = w1 at hlh
    exact ⟨⟨.commit, (if Refs.exists_ l.refs l.ref = true then l.headCommit.map (·.1) else none), some id,
        userName l, userEmail l, clock ts 1, tz, msg⟩, ⟨[], by rw [List.append_nil, ← hlh]; rfl⟩, rfl, rfl, rfl, rfl,
      aget_aset_self _ _ _⟩

/-- **head0**: after a successful `reset` (any mode): a `reset` record whose new id is the target, which the current branch now holds -/
theorem _root_.C11.world_head0_reset (H : HashFn) (w : World) (l : Loaded) (s h : Bool) (arg t prev : Bytes) (tz : Int) (ts : List Int) (o : Option Bytes)
    (hok : (resetTo H w l s h arg t prev tz ts).2 = .ok o) :
    ∃ r, LastRec w (resetTo H w l s h arg t prev tz ts).1 r ∧ r.to = some t ∧ r.kind = .reset ∧
      (resetTo H w l s h arg t prev tz ts).1.head = w.head ∧
      aget (resetTo H w l s h arg t prev tz ts).1.heads l.ref = some (hashStr t) := by
  obtain ⟨hheads, hhead, _⟩ := C08.world_reset_spec H w l s h arg t prev tz ts o hok
  refine ⟨⟨.reset, some prev, some t, userName l, userEmail l, clock ts 0, tz, asc "moving to " ++ arg⟩, ⟨[], ?_⟩, rfl, rfl, hhead, hheads⟩
  rw [List.append_nil]
  revert hok; rw [resetTo_eq]; split <;> intro hok
  · cases hok
  · rfl
  · rfl
  · rw [writeEntries_logHead']; rfl
  · cases hok

/-- **head0**: after a successful `switch`: a `checkout` record whose new id is the commit of the branch HEAD now names -/
theorem _root_.C11.world_head0_switch (H : HashFn) (w : World) (l : Loaded) (n : Bytes) (tz : Int) (ts : List Int) (o : Option Bytes)
    (hok : (switchTo H w l n tz ts).2 = .ok o) :
    ∃ r id, LastRec w (switchTo H w l n tz ts).1 r ∧ r.to = some id ∧ r.kind = .checkout ∧
      Refs.lookup l.refs n = some id ∧ (commitAt H w id).isSome = true ∧
      (switchTo H w l n tz ts).1.head = some (Head.render n) ∧ (switchTo H w l n tz ts).1.heads = w.heads := by
  rcases switchTo_cases H w l n tz ts with e | e | ⟨id, c, _, hlk, hca, e⟩ <;> rw [e] at hok ⊢
  · cases hok
  · cases hok
  · exact ⟨⟨.checkout, some id, some id, userName l, userEmail l, clock ts 0, tz, asc "moving from " ++ l.ref ++ asc " to " ++ n⟩, id,
      ⟨[], by rw [List.append_nil]; rfl⟩, rfl, rfl, hlk, by rw [hca]; rfl, rfl, rfl⟩

/-- **head0**: after a successful `switch -c`: a `checkout` record whose new id is HEAD's commit, which the new branch holds -/
theorem _root_.C11.world_head0_switch_create (w : World) (l : Loaded) (create : Bytes) (tz : Int) (ts : List Int) (o : Option Bytes)
    (hok : (switchCreate w l create tz ts).2 = .ok o) :
    ∃ r id c, LastRec w (switchCreate w l create tz ts).1 r ∧ r.to = some id ∧ r.kind = .checkout ∧ l.headCommit = some (id, c) ∧
      (switchCreate w l create tz ts).1.head = some (Head.render create) ∧
      aget (switchCreate w l create tz ts).1.heads create = some (hashStr id) := by
  rcases switchCreate_cases w l create tz ts with e | e | ⟨id, c, a, hhc, _, e⟩ <;> rw [e] at hok ⊢
  · cases hok
  · cases hok
  · exact ⟨⟨.checkout, some id, some id, userName l, userEmail l, clock ts 0, tz, asc "moving from " ++ l.ref ++ asc " to " ++ create⟩,
      id, c, ⟨[], by rw [List.append_nil]; rfl⟩, rfl, rfl, hhc, rfl, aget_aset_self _ _ _⟩

/-- **head0**: after a successful `branch -r`: two records, the last one with HEAD's commit as its new id, held by the new name -/
theorem _root_.C11.world_head0_rename (w : World) (l : Loaded) (ren : Bytes) (tz : Int) (ts : List Int) (o : Option Bytes)
    (hok : (branchRename w l ren tz ts).2 = .ok o) :
    ∃ r id c, LastRec w (branchRename w l ren tz ts).1 r ∧ r.to = some id ∧ r.kind = .branch ∧ l.headCommit = some (id, c) ∧
      (branchRename w l ren tz ts).1.head = some (Head.render ren) ∧
      aget (branchRename w l ren tz ts).1.heads ren = some (hashStr id) := by
  rcases branchRename_cases w l ren tz ts with e | e | ⟨id, c, a, hr, hhc, e⟩ <;> rw [e] at hok ⊢
  · cases hok
  · cases hok
  · refine ⟨⟨.branch, none, some id, userName l, userEmail l, clock ts 1, tz, asc "renamed refs/heads/" ++ l.ref ++ asc " to refs/heads/" ++ ren⟩,
      id, c, ⟨recLine l .branch (some id) none (clock ts 0) tz (asc "renamed refs/heads/" ++ l.ref ++ asc " to refs/heads/" ++ ren), ?_⟩,
      rfl, rfl, hhc, rfl, ?_⟩
    · simp [renamed, setHead, appendLogHead, appendLogBranch, recLine, List.append_assoc]
    · show aget (adel (aset w.heads ren (hashStr id)) l.ref) ren = _
      rw [aget_adel_ne _ _ _ (fun e => (rename_ok_facts _ _ _ _ hr).2 e.symm), aget_aset_self]

end W
