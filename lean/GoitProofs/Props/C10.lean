import GoitModel.Abstract
import GoitModel.Refs
import GoitProofs.Lemmas.BSearch

/-! # C10 — Branch and HEAD state machine (the sorted branch list and its operations) -/

namespace C10

-- the abstract branch map is an association list: `find` on it and what `Abs.setBranch`, append and filter do to `find`,
-- here because both the abstract machine (C10Abs) and the refinement of the sorted list (C10Refine) rest on them
section
open Abs

def find (bs : List (Name × Id)) (m : Name) : Option Id := (bs.find? (fun b => b.1 == m)).map (·.2)

theorem find_cons (b : Name × Id) (bs : List (Name × Id)) (m : Name) :
    find (b :: bs) m = if m = b.1 then some b.2 else find bs m := by
  by_cases h : m = b.1
  · simp [find, h]
  · simp [find, h, Ne.symm h]

theorem find_append_other {bs : List (Name × Id)} {n m : Name} {i : Id} (h : m ≠ n) :
    find (bs ++ [(n, i)]) m = find bs m := by
  simp [find, List.find?_append, Ne.symm h]

theorem find_filter (bs : List (Name × Id)) (n m : Name) :
    find (bs.filter (fun b => b.1 != n)) m = if m = n then none else find bs m := by
  unfold find; rw [List.find?_filter]
  by_cases h : m = n
  · simp [h]
  · rw [if_neg h]; congr; funext b
    by_cases hb : b.1 = m <;> simp [hb, h]

theorem find_filter_other {bs : List (Name × Id)} {n m : Name} (h : m ≠ n) :
    find (bs.filter (fun b => b.1 != n)) m = find bs m :=
  (find_filter bs n m).trans (if_neg h)

theorem find_setBranch_other {bs : List (Name × Id)} {n m : Name} {i : Id} (h : m ≠ n) :
    find (setBranch bs n i) m = find bs m := by
  unfold setBranch; split
  · next ha =>
    clear ha
    induction bs with
    | nil => rfl
    | cons b bs ih =>
      rw [List.map_cons, find_cons, find_cons, ih]; split
      · next hb => simp [beq_iff_eq.mp hb, h]
      · rfl
  · exact find_append_other h

theorem find_setBranch_self (bs : List (Name × Id)) (n : Name) (i : Id) : find (setBranch bs n i) n = some i := by
  unfold setBranch; split
  · next ha =>
    induction bs with
    | nil => cases ha
    | cons b bs ih =>
      rw [List.map_cons, find_cons]; split
      · exact if_pos rfl
      · next hb => exact (if_neg fun e => hb (beq_iff_eq.2 e.symm)).trans (ih (((Bool.or_eq_true _ _).mp ha).resolve_left hb))
  · next ha =>
    have : bs.find? (fun b => b.1 == n) = none :=
      List.find?_eq_none.mpr fun x hx hxn => ha (List.any_eq_true.mpr ⟨x, hx, hxn⟩)
    simp [find, List.find?_append, this]

end

open Refs

-- the third spelling of "keys strictly ascending", after `SortedKeys` and `C06.Canonical`: here on the names of the branch list
def Sorted (h : Heads) : Prop := SortedKeys (names h)

/-- the hand-written binary search over the branch list finds exactly the existing names -/
theorem getBranchPos_correct (h : Heads) (hs : Sorted h) (n : Bytes) :
    (∀ i, (hi : i < h.length) → h[i].1 = n → getBranchPos h n = .found i) ∧
    (n ∉ names h → getBranchPos h n = .notFound) ∧ getBranchPos h n ≠ .crash := by
  simpa only [getBranchPos, names, List.length_map, List.getElem_map] using bsearchTop_correct (names h) hs n

theorem getBranchPos_cases (h : Heads) (hs : Sorted h) (n : Bytes) :
    (∃ i, ∃ hi : i < h.length, h[i].1 = n ∧ getBranchPos h n = .found i) ∨
      (n ∉ names h ∧ getBranchPos h n = .notFound) := by
  simpa only [getBranchPos, names, List.length_map, List.getElem_map] using bsearchTop_cases (names h) hs n

theorem found_of_mem (h : Heads) (hs : Sorted h) (n : Bytes) (hm : n ∈ names h) :
    ∃ i, ∃ hi : i < h.length, h[i].1 = n ∧ getBranchPos h n = .found i :=
  (getBranchPos_cases h hs n).resolve_right fun hn => hn.1 hm

/-- **Creating a branch adds exactly one branch**: the new list is a permutation of the old one plus
    the new (name, commit) pair — every other branch keeps its commit. -/
theorem add_ok (h : Heads) (hs : Sorted h) (n id : Bytes) (hv : validName n = true) (hnew : n ∉ names h) :
    ∃ h', add h n id = .ok h' ∧ h'.Perm (h ++ [(n, id)]) := by
  have := (getBranchPos_correct h hs n).2.1 hnew
  exact ⟨sortHeads (h ++ [(n, id)]), by simp [add, hv, this], List.mergeSort_perm _ _⟩

/-- **Duplicate names are refused.** -/
theorem add_dup (h : Heads) (hs : Sorted h) (n id : Bytes) (hm : n ∈ names h) : add h n id = .err := by
  obtain ⟨i, _, _, hf⟩ := found_of_mem h hs n hm
  simp [add, hf]

/-- names that would leave `refs/heads` are refused (the pinned code let `../../HEAD` overwrite HEAD) -/
theorem add_invalid (h : Heads) (n id : Bytes) (hv : validName n = false) : add h n id = .err := by
  simp [add, hv]

example : validName (asc "../../HEAD") = false ∧ validName (asc "a/b") = false ∧ validName (asc "..") = false ∧
    validName (asc "v1.0-x_y") = true := by decide +kernel

/-- **Deleting removes exactly that branch** and is refused for the current branch or an unknown name. -/
theorem delete_ok (h : Heads) (hs : Sorted h) (head del : Bytes) (hne : del ≠ head) (hm : del ∈ names h) :
    ∃ i, ∃ hi : i < h.length, h[i].1 = del ∧ delete h head del = .ok (h.eraseIdx i) := by
  obtain ⟨i, hi, hn, hf⟩ := found_of_mem h hs del hm
  exact ⟨i, hi, hn, by simp [delete, hne, hf]⟩

theorem delete_current_refused (h : Heads) (head : Bytes) : delete h head head = .err := by simp [delete]

theorem delete_unknown_refused (h : Heads) (hs : Sorted h) (head del : Bytes) (hm : del ∉ names h) :
    delete h head del = .err := by
  simp [delete, (getBranchPos_correct h hs del).2.1 hm]

/-- **`update-ref` sets exactly the named branch**; all names and all other commits are unchanged. -/
theorem update_ok (h : Heads) (hs : Sorted h) (n id : Bytes) (hm : n ∈ names h) :
    ∃ i, ∃ hi : i < h.length, h[i].1 = n ∧ update h n id = .ok (h.modify i (fun p => (p.1, id))) := by
  obtain ⟨i, hi, hn, hf⟩ := found_of_mem h hs n hm
  exact ⟨i, hi, hn, by simp [update, hf]⟩

theorem update_unknown_refused (h : Heads) (hs : Sorted h) (n id : Bytes) (hm : n ∉ names h) : update h n id = .err := by
  simp [update, (getBranchPos_correct h hs n).2.1 hm]

/-- **Renaming gives the branch a new name with the same commit**; refused if the new name exists. -/
theorem rename_ok (h : Heads) (hs : Sorted h) (cur new : Bytes) (hv : validName new = true) (hnew : new ∉ names h)
    (hm : cur ∈ names h) :
    ∃ i, ∃ hi : i < h.length, h[i].1 = cur ∧
      ∃ h', rename h cur new = .ok h' ∧ h'.Perm (h.modify i (fun p => (new, p.2))) := by
  obtain ⟨i, hi, hn, hf⟩ := found_of_mem h hs cur hm
  have hnf := (getBranchPos_correct h hs new).2.1 hnew
  exact ⟨i, hi, hn, sortHeads (h.modify i (fun p => (new, p.2))), by simp [rename, hv, hnf, hf], List.mergeSort_perm _ _⟩

theorem rename_dup_refused (h : Heads) (hs : Sorted h) (cur new : Bytes) (hm : new ∈ names h) : rename h cur new = .err := by
  obtain ⟨i, _, _, hf⟩ := found_of_mem h hs new hm
  simp [rename, hf]

/-- non-vacuity: names that are prefixes of each other, in sorted order -/
example : Sorted [(asc "a", []), (asc "ab", []), (asc "abc", []), (asc "main", [])] := by
  unfold Sorted SortedKeys; decide +kernel

end C10
