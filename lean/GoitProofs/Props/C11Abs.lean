import GoitProofs.Props.C10Abs

/-! # C11 on the abstract repository machine: the HEAD reflog is an append-only journal

`Abs.step` is compared with the real repository (including the ids recorded in `logs/HEAD`) around every
command of the generated histories. -/

namespace C11

open Abs

/-- the entries one operation appends to the journal -/
def added (r : Repo) (op : Op) : List (Option Id) := (step r op).reflog.drop r.reflog.length

/-- **Append-only**: every operation leaves all earlier entries in place, in order, and appends at most two. -/
theorem step_appends (r : Repo) (op : Op) :
    (step r op).reflog = r.reflog ++ added r op ∧ (added r op).length ≤ 2 := by
  unfold added
  fun_cases step r op <;> simp

/-- the journal before any operation sequence is a prefix of the journal after it -/
theorem run_prefix (r : Repo) (ops : List Op) : r.reflog <+: (run r ops).reflog :=
  List.foldlRecOn (motive := fun r' => r.reflog <+: r'.reflog) ops step (List.prefix_refl _)
    fun r' h op _ => h.trans ⟨_, (step_appends r' op).1.symm⟩

/-- **Earlier entries merely shift** by the number of entries added: position `k` before the operation is
    position `k + (number added)` after it. -/
theorem shift (r : Repo) (op : Op) (k : Nat) (hk : k < r.reflog.length) :
    reflogAt (step r op) (k + (added r op).length) = reflogAt r k := by
  unfold reflogAt
  rw [(step_appends r op).1, List.length_append, if_pos (by omega), if_pos hk, List.getElem?_append_left (by omega)]
  congr 1; omega

theorem reflogAt_zero_snoc {r : Repo} {x : Option Id} {l : List (Option Id)} (h : r.reflog = l ++ [x]) :
    reflogAt r 0 = some x := by
  unfold reflogAt
  simp [h]

/-- **After a successful commit, `HEAD@{0}` is the commit HEAD now resolves to.** -/
theorem head0_commit (r : Repo) (c : Id) :
    reflogAt (step r (.commit c)) 0 = some (tip (step r (.commit c)) (step r (.commit c)).head) :=
  (reflogAt_zero_snoc rfl).trans (congrArg some (C10.find_setBranch_self ..).symm)

/-- **After a successful switch, `HEAD@{0}` is the commit HEAD now resolves to.** -/
theorem head0_switch (r : Repo) (n : Name) (t : Id) (h : tip r n = some t) :
    reflogAt (step r (.switch n)) 0 = some (tip (step r (.switch n)) (step r (.switch n)).head) := by
  have hs : step r (.switch n) = { r with head := n, reflog := r.reflog ++ [some t] } := by simp [step, h]
  rw [hs, reflogAt_zero_snoc rfl]
  exact congrArg some h.symm

/-- **After a successful reset, `HEAD@{0}` is the commit HEAD now resolves to** — the entry the reset named. -/
theorem head0_reset (r : Repo) (pos : Nat) (id t : Id) (h1 : reflogAt r pos = some (some id)) (h2 : tip r r.head = some t) :
    reflogAt (step r (.reset pos)) 0 = some (some id) ∧ tip (step r (.reset pos)) (step r (.reset pos)).head = some id := by
  have hs : step r (.reset pos) = { r with branches := setBranch r.branches r.head id, reflog := r.reflog ++ [some id] } := by
    simp [step, h1, h2]
  rw [hs]
  exact ⟨reflogAt_zero_snoc rfl, C10.find_setBranch_self ..⟩

/-- a refused reset (position out of range, or a rename's zero-id record) changes nothing -/
theorem reset_refused (r : Repo) (pos : Nat) (h : reflogAt r pos = none ∨ reflogAt r pos = some none) :
    step r (.reset pos) = r := by
  rcases h with h | h <;> simp [step, h]

/-- non-vacuity: a three-entry journal, reset to the oldest entry -/
example : let r : Repo := run {} [.commit [1], .commit [2], .commit [3]]
    reflogAt r 2 = some (some [1]) ∧ tip r r.head = some [3] ∧ (step r (.reset 2)).reflog.length = 4 := by decide +kernel

end C11
