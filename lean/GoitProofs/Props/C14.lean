import GoitModel.Cmds

/-! # C14 — log lists the history reachable from HEAD, newest first, bounded by -n -/

namespace C14

open History

/-- a linear history as Goit creates it: each commit is stored, parses, and names the next one as its
    only parent; the last one has no parent -/
def Chain (H : HashFn) (st : Store) : List (Bytes × Commit) → Prop
  | [] => True
  | (id, c) :: rest =>
    (∃ data, Store.get H st id = .ok (.commit, data) ∧ Commit.parse data = some c) ∧
    c.parents = (match rest with | [] => [] | (id', _) :: _ => [id']) ∧ Chain H st rest

def ids (l : List (Bytes × Commit)) : List Bytes := l.map (·.1)

-- the queue is the head of the chain, or empty for the empty chain: `ids (chain.take 1)` says both without a `match`
theorem walk_chain_aux (H : HashFn) (st : Store) (chain : List (Bytes × Commit)) (k : Nat) (visited : List Bytes)
    (hc : Chain H st chain) (hnd : (ids chain).Nodup) (hv : ∀ i ∈ ids chain, i ∉ visited) :
    walk H st k (ids (chain.take 1)) visited = .ok (chain.take k) := by
  induction k generalizing chain visited with
  | zero => simp [walk]
  | succ k ih =>
    cases chain with
    | nil => simp [walk, ids]
    | cons p rest =>
      obtain ⟨id, c⟩ := p
      obtain ⟨⟨data, hget, hparse⟩, hpar, hrest⟩ := hc
      rw [ids, List.map_cons, List.nodup_cons] at hnd
      have := ih rest (id :: visited) hrest hnd.2 fun i hi hm =>
        (List.mem_cons.1 hm).elim (fun h => hnd.1 (h ▸ hi)) (hv i (List.mem_cons_of_mem _ hi))
      rw [show ids (rest.take 1) = c.parents by rw [hpar]; cases rest <;> rfl] at this
      simp [walk, ids, hv id (by simp [ids]), hget, hparse, this]

/-- **`log -n k` prints exactly the min(k, length) most recent commits of the parent chain from HEAD,
    newest first, each once** — for every chain length and every k (0, 1, the exact length, above it). -/
theorem log_chain (H : HashFn) (st : Store) (head : Bytes) (c : Commit) (rest : List (Bytes × Commit)) (k : Nat)
    (hc : Chain H st ((head, c) :: rest)) (hnd : (ids ((head, c) :: rest)).Nodup) :
    log H st head (k : Int) = .ok (((head, c) :: rest).take k) := by
  simpa [log, ids] using walk_chain_aux H st ((head, c) :: rest) k [] hc hnd (by simp)

/-- a non-positive bound prints nothing -/
theorem log_nonpos (H : HashFn) (st : Store) (head : Bytes) (k : Int) (hk : k ≤ 0) : log H st head k = .ok [] := by
  have : k.toNat = 0 := by omega
  simp [log, this, walk]

/-- the listing depends only on the object store (the commit graph): `log` takes no index, work tree or
    branch list — by the type of `History.log` -/
example : HashFn → Store → Bytes → Int → Res (List (Bytes × Commit)) := History.log

/-! ### `goit log [-n k]` on the command model `Cmds.logCmd` (compared with the ids the real `log` prints) -/

open Cmds

/-- **`log -n k` lists exactly the first min(k, length) commits of the parent chain from HEAD, newest first,
    each once**, for every chain and every k ≥ 0 -/
theorem logCmd_chain (H : HashFn) (st : Store) (head : Bytes) (c : Commit) (rest : List (Bytes × Commit)) (k : Nat)
    (hc : Chain H st ((head, c) :: rest)) (hnd : (ids ((head, c) :: rest)).Nodup) :
    logCmd H st true head (k : Int) = .ok (ids (((head, c) :: rest).take k)) := by
  simp only [logCmd, Bool.not_true, Bool.false_eq_true, if_false, log_chain H st head c rest k hc hnd, Res.map, ids]

/-- the number of commits listed is min(k, length) -/
theorem logCmd_count (H : HashFn) (st : Store) (head : Bytes) (c : Commit) (rest : List (Bytes × Commit)) (k : Nat)
    (hc : Chain H st ((head, c) :: rest)) (hnd : (ids ((head, c) :: rest)).Nodup) :
    ∃ l, logCmd H st true head (k : Int) = .ok l ∧ l.length = min k (rest.length + 1) := by
  refine ⟨_, logCmd_chain H st head c rest k hc hnd, ?_⟩
  simp [ids]

/-- `-n 0` and negative bounds print nothing; before the first commit `log` is refused -/
theorem logCmd_nonpos (H : HashFn) (st : Store) (head : Bytes) (k : Int) (hk : k ≤ 0) :
    logCmd H st true head k = .ok [] := by
  simp [logCmd, log_nonpos H st head k hk, Res.map]

theorem logCmd_no_commits (H : HashFn) (st : Store) (head : Bytes) (k : Int) : logCmd H st false head k = .err := by
  simp [logCmd]

end C14
