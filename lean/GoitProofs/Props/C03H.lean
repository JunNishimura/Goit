import GoitModel.Abstract
import GoitProofs.Lemmas.Bytes

/-! # C03 / C10 — the connectivity invariant over *all* command sequences (abstract state machine)

`Abs.Repo` / `Abs.step` (GoitModel/Abstract.lean) is the reference side of a repository with the
validations of the repaired commands as guards. The theorems hold for every sequence of operations,
including refused and hostile ones (an id that is not a stored commit given to `update-ref`, invalid
names, a reset to a zero-id record or out of range). -/

namespace C03

open Abs

/-- connectivity of the reference side -/
structure Inv (r : Repo) : Prop where
  branches : ∀ b ∈ r.branches, b.2 ∈ r.commits            -- every branch holds the id of a stored commit
  head     : r.head ∈ names r ∨ r.branches = []           -- HEAD names an existing branch (or nothing is committed yet)
  index    : ∀ e ∈ r.index, e.2 ∈ r.blobs                 -- every staged path names a stored blob
  reflog   : ∀ i, some i ∈ r.reflog → i ∈ r.commits       -- every id in the reflog is a stored commit

theorem inv_init : Inv {} := ⟨by simp, Or.inr rfl, by simp, by simp⟩

/-- applied to `setPath` too (`Inv.stage`): the two definitions have the same body -/
theorem setBranch_subset {bs : List (Name × Id)} {n : Name} {i : Id} : setBranch bs n i ⊆ bs ++ [(n, i)] := by
  intro b h
  unfold setBranch at h
  split at h
  · obtain ⟨x, hx, rfl⟩ := List.mem_map.mp h
    split
    · exact List.mem_append_right _ (.head _)
    · exact List.mem_append_left _ hx
  · exact h

theorem self_mem_setBranch (bs : List (Name × Id)) (n : Name) (i : Id) : (n, i) ∈ setBranch bs n i := by
  unfold setBranch
  split
  · next h =>
    obtain ⟨b, hb, hbn⟩ := List.any_eq_true.mp h
    exact List.mem_map.mpr ⟨b, hb, if_pos hbn⟩
  · exact List.mem_append_right _ (.head _)

theorem names_setBranch (bs : List (Name × Id)) (n m : Name) (i : Id) (h : m ∈ bs.map (·.1)) :
    m ∈ (setBranch bs n i).map (·.1) := by
  obtain ⟨b, hb, rfl⟩ := List.mem_map.mp h
  unfold setBranch
  split
  · refine List.mem_map.mpr ⟨_, List.mem_map_of_mem hb, ?_⟩
    split
    · next hbn => exact (beq_iff_eq.mp hbn).symm
    · rfl
  · exact List.mem_map_of_mem (List.mem_append_left _ hb)

theorem tip_mem {r : Repo} {n : Name} {t : Id} (h : tip r n = some t) : (n, t) ∈ r.branches := by
  obtain ⟨⟨k, j⟩, hf, rfl⟩ := Option.map_eq_some_iff.mp h
  have hk := List.find?_some hf
  cases beq_iff_eq.mp hk
  exact List.mem_of_find?_eq_some hf

namespace Inv
variable {r : Repo} (h : Inv r)
include h

theorem tip {n : Name} {t : Id} (ht : tip r n = some t) : t ∈ r.commits := h.branches _ (tip_mem ht)

theorem store (c : Id) : Inv { r with commits := c :: r.commits } :=
  ⟨fun b hb => .tail _ (h.branches b hb), h.head, h.index, fun i hi => .tail _ (h.reflog i hi)⟩

/-- the one shape that serves every ref-changing case of `inv_step`: at most one new pair, HEAD on a member -/
theorem refs {bs : List (Name × Id)} {n m : Name} {i j : Id} (hi : i ∈ r.commits)
    (hbs : bs ⊆ r.branches ++ [(n, i)]) (hm : (m, j) ∈ bs) : Inv { r with branches := bs, head := m } :=
  ⟨fun b hb => (List.mem_append.mp (hbs hb)).elim (h.branches b) fun e => List.mem_singleton.mp e ▸ hi,
   .inl (List.mem_map_of_mem hm), h.index, h.reflog⟩

theorem log {l : List (Option Id)} (hl : ∀ i, some i ∈ l → i ∈ r.commits) : Inv { r with reflog := r.reflog ++ l } :=
  ⟨h.branches, h.head, h.index, fun i hi => (List.mem_append.mp hi).elim (h.reflog i) (hl i)⟩

theorem stage {bl : List Id} {p : Bytes} {i : Id} (hbl : r.blobs ⊆ bl) (hi : i ∈ bl) :
    Inv { r with blobs := bl, index := setPath r.index p i } :=
  ⟨h.branches, h.head, fun e he => (List.mem_append.mp (setBranch_subset he)).elim (fun he => hbl (h.index e he))
    fun e => List.mem_singleton.mp e ▸ hi, h.reflog⟩

end Inv

theorem reflogAt_mem {r : Repo} {pos : Nat} {x : Option Id} (h : reflogAt r pos = some x) : x ∈ r.reflog := by
  unfold reflogAt at h
  split at h
  · exact List.mem_of_getElem? h
  · cases h

/-- **One command preserves connectivity** — whatever the command and its arguments. -/
theorem inv_step (r : Repo) (op : Op) (h : Inv r) : Inv (step r op) := by
  -- the accepted cases, in the order of `Op`; a refused command leaves `r`
  fun_cases step r op with
  | case1 => exact h.stage (List.subset_cons_self ..) (.head _)                                      -- add
  | case2 => exact ⟨h.branches, h.head, fun e he => h.index e (List.mem_filter.mp he).1, h.reflog⟩  -- unstage
  | case3 _ _ hc => exact h.stage (List.Subset.refl _) (List.contains_iff_mem.mp hc)                 -- stageFromHead
  | case5 => exact (((h.store _).refs (.head _) setBranch_subset (self_mem_setBranch ..)).log (by simp))  -- commit
  | case6 _ t ht => exact h.refs (h.tip ht) (List.Subset.refl _) (List.mem_append_left _ (tip_mem ht))  -- branchCreate
  | case9 _ hc =>                                                                              -- branchDelete
    have hc := (Bool.and_eq_true _ _).mp hc
    refine ⟨fun b hb => h.branches b (List.mem_filter.mp hb).1, h.head.imp (fun hm => ?_) fun e => by rw [e]; rfl, h.index, h.reflog⟩
    obtain ⟨b, hb, hbn⟩ := List.mem_map.mp hm
    exact List.mem_map.mpr ⟨b, List.mem_filter.mpr ⟨hb, by rw [hbn, bne_comm]; exact hc.1⟩, hbn⟩
  | case11 _ t ht =>                                                                          -- branchRename
    exact (h.refs (h.tip ht) ((List.filter_sublist.append_right _).subset) (List.mem_append_right _ (.head _))).log
      (by simpa using h.tip ht)
  | case14 n t ht =>                                                                        -- switch
    exact (h.refs (h.tip ht) (List.subset_append_left _ [(n, t)]) (tip_mem ht)).log (by simpa using h.tip ht)
  | case16 _ t ht =>                                                                          -- switchCreate
    exact (h.refs (h.tip ht) (List.Subset.refl _) (List.mem_append_right _ (.head _))).log (by simpa using h.tip ht)
  | case19 _ _ hc =>                                                                              -- updateRef
    exact h.refs (List.contains_iff_mem.mp ((Bool.and_eq_true _ _).mp hc).2) setBranch_subset (self_mem_setBranch ..)
  | case21 _ id _ _ hra =>                                                                      -- reset
    have hid := h.reflog id (reflogAt_mem hra)
    exact (h.refs hid setBranch_subset (self_mem_setBranch ..)).log (by simpa using hid)
  | _ => exact h

/-- **After any sequence of commands — accepted, refused or hostile — the repository is connected.** -/
theorem inv_run (ops : List Op) : Inv (run {} ops) :=
  List.foldlRecOn ops step inv_init fun r h op _ => inv_step r op h

/-- **No command deletes a stored object**: the sets of stored commits and blobs only grow. -/
theorem objects_monotone (r : Repo) (op : Op) :
    (∀ c ∈ r.commits, c ∈ (step r op).commits) ∧ (∀ b ∈ r.blobs, b ∈ (step r op).blobs) := by
  -- `add` conses a blob, `commit` a commit; every other leaf leaves both lists alone
  fun_cases step r op with
  | case1 => exact ⟨fun _ h => h, fun _ h => .tail _ h⟩
  | case5 => exact ⟨fun _ h => .tail _ h, fun _ h => h⟩
  | _ => exact ⟨fun _ h => h, fun _ h => h⟩

/-- non-vacuity: a concrete hostile history (blob id to update-ref, bad names, reset to the rename record) -/
example : (run {} [.add (asc "f") [1], .commit [9], .updateRef (asc "main") [1], .branchCreate (asc "../x"),
    .branchRename (asc "dev"), .reset 1, .switchCreate (asc "t"), .reset 0]).branches =
    [(asc "dev", [9]), (asc "t", [9])] := by decide +kernel

end C03
