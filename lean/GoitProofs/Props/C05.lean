import GoitModel.Tree
import GoitProofs.Lemmas.Bytes

/-! # C05 — Snapshot read-back: what Goit reads from a tree is what was written

`walk_encode`: Goit's tree reader (`walkTree`, as repaired) applied to the byte layout its writer
produces returns exactly the entries written — for **every** name without NUL (spaces, non-ASCII,
names that extend a sibling's name) and **every** 20-byte id (including ids containing 0x00, 0x20,
0x0a), and for the empty tree. -/

namespace C05

open TreeCodec

/-- one entry of a tree as the writer sees it -/
structure Item where
  isDir : Bool
  name  : Bytes
  id    : Bytes
  kids  : List Node      -- children of the sub-tree (for a directory entry), `[]` for a file

def Item.mode (it : Item) : Bytes := if it.isDir then modeDir else modeFile

/-- the bytes `writeTreeObject` emits for a list of entries -/
def encodeItems : List Item → Bytes
  | [] => []
  | it :: rest => encodeEntry it.mode it.name it.id ++ encodeItems rest

def nodesOf (items : List Item) : List Node := items.map fun it => Node.mk it.name it.id it.kids

/-- what the writer guarantees about an entry; `sub` is how a sub-tree id is resolved (through the store) -/
def ItemOK (sub : Bytes → Option (List Node)) (it : Item) : Prop :=
  it.id.length = 20 ∧ (0 : UInt8) ∉ it.name ∧
    (if it.isDir then sub it.id = some it.kids else it.kids = [])

theorem mode_plain (it : Item) : (0 : UInt8) ∉ it.mode ∧ (32 : UInt8) ∉ it.mode := by
  unfold Item.mode; split <;> simp [modeDir, modeFile, asc]

theorem mode_isDir (it : Item) : (it.mode == modeDir) = it.isDir := by
  unfold Item.mode; cases it.isDir <;> decide +kernel

theorem readCStr_append (s r : Bytes) (h : (0 : UInt8) ∉ s) : readCStr (s ++ 0 :: r) = (s, r) := by
  induction s with
  | nil => rfl
  | cons b bs ih => simp [readCStr, (List.ne_of_not_mem_cons h).symm, ih (List.not_mem_of_not_mem_cons h)]

theorem encodeItems_cons (it : Item) (rest : List Item) :
    encodeItems (it :: rest) = (it.mode ++ 32 :: it.name) ++ 0 :: (it.id ++ encodeItems rest) := by
  simp [encodeItems, encodeEntry]

theorem readCStr_items (it : Item) (rest : List Item) (hn : (0 : UInt8) ∉ it.name) :
    readCStr (encodeItems (it :: rest)) = (it.mode ++ 32 :: it.name, it.id ++ encodeItems rest) := by
  rw [encodeItems_cons]
  exact readCStr_append _ _ (by simp [(mode_plain it).1, hn])

theorem cut_line (it : Item) : Bytes.cut1 32 (it.mode ++ 32 :: it.name) = (it.mode, some it.name) :=
  Bytes.cut1_append 32 _ _ (mode_plain it).2

theorem kids_of_ok (sub : Bytes → Option (List Node)) (it : Item) (h : ItemOK sub it) :
    (if it.isDir then sub it.id else some []) = some it.kids := by
  obtain ⟨-, -, hk⟩ := h
  split at hk <;> rename_i hd
  · rw [if_pos hd, hk]
  · rw [if_neg hd, hk]

/-- one iteration of the reader's loop, on a buffer that starts with the 20 id bytes -/
theorem loop_step (sub : Bytes → Option (List Node)) (fuel : Nat) (isDir : Bool) (name id tail : Bytes)
    (hid : id.length = 20) :
    loop sub (fuel + 1) isDir name (id ++ tail) =
      (match (if isDir then sub id else some []) with
       | none => none
       | some kids =>
         if (readCStr tail).1 = [] then some [Node.mk name id kids]
         else
           match Bytes.cut1 32 (readCStr tail).1 with
           | (_, none) => none
           | (m, some n) =>
             match loop sub fuel (m == modeDir) n (readCStr tail).2 with
             | some nodes => some (Node.mk name id kids :: nodes)
             | none => none) := by
  rw [loop, if_neg (by simp [hid]), List.take_left' hid, List.drop_left' hid]
  rfl

theorem loop_encode (sub : Bytes → Option (List Node)) (it : Item) (rest : List Item)
    (hit : ItemOK sub it) (hrest : ∀ x ∈ rest, ItemOK sub x) (fuel : Nat) (hf : rest.length < fuel) :
    loop sub fuel it.isDir it.name (it.id ++ encodeItems rest) = some (nodesOf (it :: rest)) := by
  induction fuel generalizing it rest with
  | zero => omega
  | succ f ih =>
    rw [loop_step _ _ _ _ _ _ hit.1, kids_of_ok sub it hit]
    cases rest with
    | nil => rfl
    | cons nx rest =>
      have hnx := hrest nx List.mem_cons_self
      have hrec := ih nx rest hnx (fun x hx => hrest x (List.mem_cons_of_mem _ hx)) (Nat.lt_of_succ_lt_succ hf)
      rw [readCStr_items nx rest hnx.2.1]
      simp [cut_line, mode_isDir, hrec, nodesOf]

theorem encodeItems_length (l : List Item) : l.length ≤ (encodeItems l).length := by
  induction l with
  | nil => exact Nat.le_refl 0
  | cons a t ih =>
    rw [encodeItems_cons]
    simp only [List.length_cons, List.length_append]
    omega

/-- the resolution of sub-tree ids that `walk` uses at depth `d` -/
def subAt (H : HashFn) (st : Store) (d : Nat) : Bytes → Option (List Node) := fun id =>
  match Store.get H st id with
  | .ok (.tree, sdata) => walk H st d sdata
  | _ => none

/-- **Reader ∘ writer = identity on one tree level**, sub-trees being resolved through the store. -/
theorem walk_encode (H : HashFn) (st : Store) (d : Nat) (items : List Item)
    (h : ∀ x ∈ items, ItemOK (subAt H st d) x) :
    walk H st (d + 1) (encodeItems items) = some (nodesOf items) := by
  cases items with
  | nil => rfl
  | cons it rest =>
    have hit := h it List.mem_cons_self
    have hlen : rest.length < (encodeItems (it :: rest)).length := encodeItems_length (it :: rest)
    rw [walk, if_neg (List.ne_nil_of_length_pos (Nat.zero_lt_of_lt hlen)), readCStr_items it rest hit.2.1]
    simp only [cut_line, mode_isDir]
    exact loop_encode (subAt H st d) it rest hit (fun x hx => h x (List.mem_cons_of_mem _ hx)) _ (Nat.lt_succ_of_lt hlen)

/-- the empty snapshot reads back as empty (the pinned code crashed here) -/
theorem walk_empty (H : HashFn) (st : Store) (d : Nat) : walk H st (d + 1) [] = some [] := rfl

/-- `cat-file -p` of a tree lists exactly the direct children, with kind, id and complete name -/
theorem render_children (items : List Item) :
    render (nodesOf items) = Bytes.join [10] (items.map fun it =>
      (if it.kids.isEmpty then asc "100644 blob " else asc "040000 tree ") ++ hashStr it.id ++ [9] ++ it.name) := by
  rw [render, nodesOf, List.map_map]
  rfl

/-- non-vacuity: a name with a space, an id made of NULs, an id made of spaces -/
example : walk sha1Fn Store.empty 1 (encodeItems [⟨false, asc "my file.txt", List.replicate 20 0, []⟩,
      ⟨false, asc "lib.go", List.replicate 20 32, []⟩]) =
    some (nodesOf [⟨false, asc "my file.txt", List.replicate 20 0, []⟩, ⟨false, asc "lib.go", List.replicate 20 32, []⟩]) :=
  walk_encode _ _ _ _ (List.forall_mem_cons.2 ⟨⟨rfl, by decide +kernel, rfl⟩, List.forall_mem_cons.2 ⟨⟨rfl, by decide +kernel, rfl⟩, nofun⟩⟩)

end C05
