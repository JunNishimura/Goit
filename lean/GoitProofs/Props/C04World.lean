import GoitProofs.Props.C03Closure
import GoitProofs.Props.WorldAgree

/-! C04 + C01 on the whole-repository model: `add <file>` stores what it stages (Goit's own reader returns the file's bytes for
    the staged id), and a successful `rm <args>` leaves exactly the entries no argument names. -/

namespace W

/-- after the blobs are stored, each reads back as a blob with its own bytes -/
theorem putBlobs_get (H : HashFn) (w : World) (ds : List Bytes) (hfit : BlobsFit H w ds) (hsz : ∀ d ∈ ds, d.length ≤ Fmt.int64Max) :
    ∀ d ∈ ds, Store.get H (store (ds.foldl (putBlob H) w)) (Obj.id H .blob d) = .ok (.blob, d) :=
  fun d hd => get_stored H _ .blob d (by decide) (hsz d hd) (putBlobs_holds H w ds hfit d hd)

end W

namespace C04

open Cmds

/-- **`add <file>` stores what it stages** (whole-repository model, one file argument): for a file that exists, is not a directory
    and is not ignored, in a state whose staging area is canonical (`W.J`, every history) and under the input conditions of the step,
    the command ends `ok`; the staging area holds the blob id of the file's current bytes under the cleaned path and is otherwise
    unchanged; and Goit's object reader returns kind `blob` and exactly those bytes for that id. -/
theorem world_add_file_stored (H : HashFn) (w : W.World) (l : W.Loaded) (a data : Bytes)
    (hl : W.load H w = some l) (hj : W.J H w)
    (hw : ∀ f ∈ w.files, TreeBuild.PathOK f.1 ∧ (0 : UInt8) ∉ f.1 ∧ f.2.length ≤ Fmt.int64Max)
    (hfit : W.BlobsFit H w (w.files.map (·.2)))
    (hio : W.ignoreOK w = true)
    (hig : ignored (W.ws w l []) (cleanPath a) = false) (hfile : fileAt (W.ws w l []) (cleanPath a) = some data)
    (hnd : isDirOnDisk (W.ws w l []) (cleanPath a) = false) :
    (W.addCmd H w l [a]).2 = .ok none ∧
    (∃ idx', (W.addCmd H w l [a]).1.index = (if idx' = l.idx then w.index else some idx') ∧
      (⟨Obj.id H .blob data, cleanPath a⟩ : Entry) ∈ idx' ∧
      ∀ e : Entry, e.path ≠ cleanPath a → (e ∈ idx' ↔ e ∈ l.idx)) ∧
    Store.get H (W.store (W.addCmd H w l [a]).1) (Obj.id H .blob data) = .ok (.blob, data) := by
  have hcan : C06.Canonical l.idx := (W.loaded_idx_goodE H w l hl hj.1).canon
  obtain ⟨idx1, h1, hc1, hin, hfr1⟩ := addOne_spec H l.idx hcan (cleanPath a) data
  have hex : existsOnDisk (W.ws w l []) (cleanPath a) = true := by simp [existsOnDisk, isFile, hfile]
  have hws : ({ W.ws w l [] with index := l.idx } : WS) = W.ws w l [] := rfl
  have hloop : W.addArgsP H (W.ws w l []) [a] l.idx [] = ⟨true, false, idx1, [data]⟩ := by
    simp [W.addArgsP, hws, hig, hex, hnd, hfile, h1]
  have hmem : (cleanPath a, data) ∈ w.files := W.fileAt_mem (W.ws w l []) _ _ hfile
  have hsz : data.length ≤ Fmt.int64Max := (hw _ hmem).2.2
  have hfit1 : W.BlobsFit H w [data] :=
    W.blobsFit_sub H w _ [data] (fun d hd => by simp at hd; rw [hd]; exact List.mem_map.mpr ⟨(cleanPath a, data), hmem, rfl⟩) hfit
  have hget := W.putBlobs_get H w [data] hfit1 (fun d hd => by simp at hd; rw [hd]; exact hsz) data (by simp)
  have hrun : W.addCmd H w l [a] = (W.setIndexIfChanged (List.foldl (W.putBlob H) w [data]) l.idx idx1, .ok none) := by
    unfold W.addCmd
    simp [hio, hex, hloop]
  rw [hrun]
  refine ⟨rfl, ⟨idx1, ?_, hin, hfr1⟩, ?_⟩
  · rw [W.setIndexIfChanged_index_eq, W.putBlobs_index']
  · rw [show W.store (W.setIndexIfChanged (List.foldl (W.putBlob H) w [data]) l.idx idx1) = W.store (List.foldl (W.putBlob H) w [data]) by
      unfold W.store; rw [W.setIndexIfChanged_objs']]
    exact hget

/-- **`rm <args>`, exact, on the whole-repository model** (a state meeting `W.J`): when it ends `ok`, every argument named a tracked
    path or a tracked directory, the staging area afterwards holds exactly the earlier entries that no argument names (the path
    itself or anything beneath it), in their order, and is canonical -/
theorem world_rm_exact (H : HashFn) (w : W.World) (l : W.Loaded) (args : List Bytes) (o : Option Bytes)
    (hl : W.load H w = some l) (hj : W.J H w) (hok : (W.rmCmd w l args).2 = .ok o) :
    ∃ idx', (W.rmCmd w l args).1.index = (if idx' = l.idx then w.index else some idx') ∧
      (∀ a ∈ args, (∃ e ∈ l.idx, e.path = cleanPath a) ∨ ∃ e ∈ l.idx, C06.Beneath (cleanPath a) e.path) ∧
      C06.Canonical idx' ∧ idx'.Sublist l.idx ∧ ∀ e, e ∈ idx' ↔ e ∈ l.idx ∧ ∀ a ∈ args, Kept (cleanPath a) e := by
  obtain ⟨idx', removed, hcmd, _, hidx⟩ := world_rm_is_cmd w l args o hok
  have hcan : C06.Canonical (W.ws w l []).index := (W.loaded_idx_goodE H w l hl hj.1).canon
  obtain ⟨h1, h2, h3, h4⟩ := rm_exact (W.ws w l []) args hcan idx' removed hcmd
  exact ⟨idx', hidx, h1, h2, h3, h4⟩

end C04
