import GoitProofs.Props.C06Full

/-! C09 (`restore --staged`) in a state every history reaches: HEAD's snapshot, read back through the World's own store, is
    canonical by `W.J`, so `C09.restoreStaged_exact` applies with nothing assumed of it. -/

namespace C09

open Cmds C06

/-- **`restore --staged <args>`, exact, on the whole-repository model**: when it ends `ok` in a state meeting `W.J`, the staging
    area afterwards holds, for every named path (the path itself; for a directory every path beneath it that is staged or in HEAD),
    exactly HEAD's entry (none if HEAD has none), every other entry is as before, and nothing but the staging area changed
    (`C09.world_restore_staged_frame`). -/
theorem world_restore_staged_exact (H : HashFn) (w : W.World) (l : W.Loaded) (args : List Bytes) (o : Option Bytes)
    (hl : W.load H w = some l) (hj : W.J H w) (hok : (W.restoreCmd H w l true args).2 = .ok o) :
    ∃ snap idx', W.headSnap H w l = .ok snap ∧
      (W.restoreCmd H w l true args).1.index = (if idx' = l.idx then w.index else some idx') ∧
      Canonical idx' ∧ (∀ e : Entry, Named args e.path → (e ∈ idx' ↔ e ∈ snap)) ∧
      (∀ e : Entry, ¬ Named args e.path → (e ∈ idx' ↔ e ∈ l.idx)) := by
  revert hok; rw [W.restoreCmd_eq]; split <;> intro hok
  · cases hok
  · contradiction
  · next snap _ _ _ hs =>
    cases hr : restoreStagedArgs snap args l.idx with
    | mk ok idx' =>
      rw [hr] at hok
      cases ok with
      | false => cases hok
      | true =>
        obtain ⟨hc, hn, hf⟩ := restoreStaged_exact snap ((W.readsGoodE H w hj.2).2 l snap hl hs).canon args l.idx
          (W.loaded_idx_goodE H w l hl hj.1).canon idx' hr
        exact ⟨snap, idx', hs, W.setIndexIfChanged_index_eq w l.idx idx', hc, hn, hf⟩
  · cases hok
  · cases hok

end C09
