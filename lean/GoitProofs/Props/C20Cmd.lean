import GoitModel.CmdsConfig
import GoitProofs.Props.C20

/-! # C20: a value set with `config <section>.<key> <value>` is the value later commands read,
    and the file written still loads: for `Config.add`, then for the command model `Cmds.configCmd` -/

namespace C20

open Config

/-- setting a well-formed key keeps the configuration well formed (what Goit writes stays loadable) -/
theorem add_cfgOK (c : Sections) (h : CfgOK c) (s k v : Bytes) (hs : SecOK s) (hk : KeyOK k) (hv : ValOK v)
    (hl1 : (headLine s).length < Bytes.maxToken) (hl2 : (keyLine (k, v)).length < Bytes.maxToken) :
    CfgOK (add c s k v) := by
  rw [add_eq]
  refine alSet_ok s _ c _ ⟨hs, hl1, alSet_ok k v _ _ ⟨hk, hv, hl2⟩ ?_⟩ h
  cases hg : alGet s c with
  | none => exact ⟨List.nodup_nil, fun _ m => nomatch m⟩
  | some kv => exact (h.2 _ (alGet_mem hg)).2.2

theorem add_roundtrip (c : Sections) (h : CfgOK c) (s k v : Bytes) (hs : SecOK s) (hk : KeyOK k) (hv : ValOK v)
    (hl1 : (headLine s).length < Bytes.maxToken) (hl2 : (keyLine (k, v)).length < Bytes.maxToken) :
    parse (render (add c s k v)) = some (add c s k v) ∧ get (add c s k v) s k = some v ∧
      ∀ s' k', ¬ (s' = s ∧ k' = k) → get (add c s k v) s' k' = get c s' k' :=
  ⟨parse_render _ (add_cfgOK c h s k v hs hk hv hl1 hl2), by simp [add_get], fun s' k' hne => by simp [add_get, hne]⟩

/-- **Round trip through the file**: after `config s.k v` on a configuration Goit wrote, what is written loads
    again, `s.k` reads as exactly `v`, and every other (section, key) reads as before — for every value of
    printable characters with inner blanks, including `=`, `[`, `]`, `#`, quotes and non-ASCII text. -/
theorem config_set_roundtrip (c : Sections) (h : CfgOK c) (s k v : Bytes) (hs : SecOK s) (hk : KeyOK k) (hv : ValOK v)
    (hl1 : (headLine s).length < Bytes.maxToken) (hl2 : (keyLine (k, v)).length < Bytes.maxToken) :
    ∃ c', parse (render (add c s k v)) = some c' ∧ get c' s k = some v ∧
      ∀ s' k', ¬ (s' = s ∧ k' = k) → get c' s' k' = get c s' k' :=
  ⟨_, add_roundtrip c h s k v hs hk hv hl1 hl2⟩

open Cmds

theorem configArgsOK_some (key value sec k : Bytes) :
    configArgsOK key value = some (sec, k) ↔
      Bytes.split1 46 key = [sec, k] ∧ sec ≠ [] ∧ ∀ x ∈ key ++ value, x ≠ 10 ∧ x ≠ 13 := by
  unfold configArgsOK
  split
  next s1 k1 hsp =>
    simp only [hsp, Option.ite_none_left_eq_some, Bool.or_eq_true, decide_eq_true_eq, List.any_eq_true, not_or, not_exists,
      not_and, Option.some.injEq, Prod.mk.injEq, List.cons.injEq, and_true]
    constructor
    · rintro ⟨h, rfl, rfl⟩; exact ⟨⟨rfl, rfl⟩, h⟩
    · rintro ⟨⟨rfl, rfl⟩, h⟩; exact ⟨h, rfl, rfl⟩
  next hn => exact ⟨fun h => (nomatch h), fun h => (hn _ _ h.1).elim⟩

/-- what `config` accepts: one dot, a non-empty section, no line break — and then it sets exactly that key -/
theorem configCmd_ok (file : Option Bytes) (key value : Bytes) (c' : Sections) (h : configCmd file key value = .ok c') :
    ∃ sec k c, Bytes.split1 46 key = [sec, k] ∧ SecOK sec ∧ (10 : UInt8) ∉ value ∧ cfgOf file = some c ∧
      c' = add c sec k value := by
  unfold configCmd at h
  split at h
  · cases h
  next sec k ha =>
  split at h
  · cases h
  next c hc =>
  cases h
  obtain ⟨hsp, hne, hno⟩ := (configArgsOK_some _ _ _ _).1 ha
  have hsub := Bytes.subset_of_mem_split1 46 key sec (hsp ▸ List.mem_cons_self)
  exact ⟨sec, k, c, hsp, ⟨hne, fun hin => (hno 10 (List.mem_append_left _ (hsub hin))).1 rfl⟩,
    fun hin => (hno 10 (List.mem_append_right _ hin)).1 rfl, hc, rfl⟩

/-- **An accepted setting is written to a file that loads again and reads back exactly**: for a configuration Goit
    wrote, a well-formed key and a value of printable characters with inner blanks. -/
theorem configCmd_roundtrip (file : Option Bytes) (key value : Bytes) (c' : Sections) (h : configCmd file key value = .ok c')
    (c : Sections) (hc : cfgOf file = some c) (hok : CfgOK c) (sec k : Bytes) (hsp : Bytes.split1 46 key = [sec, k])
    (hk : KeyOK k) (hv : ValOK value)
    (hl1 : (headLine sec).length < Bytes.maxToken) (hl2 : (keyLine (k, value)).length < Bytes.maxToken) :
    parse (render c') = some c' ∧ get c' sec k = some value ∧
      ∀ s' k', ¬ (s' = sec ∧ k' = k) → get c' s' k' = get c s' k' := by
  obtain ⟨sec2, k2, c2, hsp2, hsec, -, hc2, rfl⟩ := configCmd_ok file key value c' h
  cases hsp.symm.trans hsp2
  cases hc.symm.trans hc2
  exact add_roundtrip c hok sec k value hsec hk hv hl1 hl2

/-- an empty section name, a key without or with several dots, or a line break anywhere is refused -/
theorem configCmd_refused (file : Option Bytes) (key value : Bytes)
    (h : (Bytes.split1 46 key).length ≠ 2 ∨ (∃ k, Bytes.split1 46 key = [[], k]) ∨ (10 : UInt8) ∈ key ++ value ∨ (13 : UInt8) ∈ key ++ value) :
    configCmd file key value = .err := by
  unfold configCmd
  split
  · rfl
  next sec k ha =>
    exfalso
    obtain ⟨hsp, hne, hno⟩ := (configArgsOK_some _ _ _ _).1 ha
    rcases h with h | ⟨k', h⟩ | h | h
    · simp [hsp] at h
    · rw [hsp] at h; cases h; exact hne rfl
    · exact (hno 10 h).1 rfl
    · exact (hno 13 h).2 rfl

end C20
