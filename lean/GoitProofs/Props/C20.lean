import GoitModel.Config
import GoitProofs.Lemmas.Lines

/-! # C20 — Configuration round trip and precedence -/

namespace C20

open Config

def keyLine (p : Bytes × Bytes) : Bytes := [9] ++ p.1 ++ asc " = " ++ p.2
def headLine (s : Bytes) : Bytes := [91] ++ s ++ [93]
def linesOf (c : Sections) : List Bytes := c.flatMap fun p => headLine p.1 :: p.2.map keyLine

theorem render_eq (c : Sections) : render c = Bytes.unlines (linesOf c) := by
  simp [render, Bytes.unlines, linesOf, List.flatMap_def, List.flatten_flatten, headLine, keyLine, Function.comp_def]

/-- no leading or trailing ASCII white space (what `TrimSpace` keeps) -/
def Trimmed (b : Bytes) : Prop :=
  (∀ c, b.head? = some c → Bytes.isAsciiSpace c = false) ∧ (∀ c, b.getLast? = some c → Bytes.isAsciiSpace c = false)

/-- a key as `config <section>.<key>` produces it -/
def KeyOK (k : Bytes) : Prop := (9 : UInt8) ∉ k ∧ (61 : UInt8) ∉ k ∧ (10 : UInt8) ∉ k ∧ Trimmed k
/-- **every value of printable characters and inner blanks**: no tab, no line break, no leading or
    trailing blank — `=`, `[`, `]`, `#`, quotes and non-ASCII text are all allowed -/
def ValOK (v : Bytes) : Prop := (9 : UInt8) ∉ v ∧ (10 : UInt8) ∉ v ∧ Trimmed v
def SecOK (s : Bytes) : Prop := s ≠ [] ∧ (10 : UInt8) ∉ s

def keys (kv : KV) : List Bytes := kv.map (·.1)
def names (c : Sections) : List Bytes := c.map (·.1)

/-- what a configuration file written by Goit looks like, as data -/
def CfgOK (c : Sections) : Prop :=
  (names c).Nodup ∧ ∀ p ∈ c, SecOK p.1 ∧ (headLine p.1).length < Bytes.maxToken ∧ (keys p.2).Nodup ∧
    ∀ q ∈ p.2, KeyOK q.1 ∧ ValOK q.2 ∧ (keyLine q).length < Bytes.maxToken

/-! `kvSet`/`secSet` and `kvGet`/`secGet` are one pair of functions at two value types: what is true of both is proved once. -/

def alSet {β : Type} (k : Bytes) (v : β) : List (Bytes × β) → List (Bytes × β)
  | [] => [(k, v)]
  | (k', v') :: t => if k' = k then (k, v) :: t else (k', v') :: alSet k v t

def alGet {β : Type} (k : Bytes) : List (Bytes × β) → Option β
  | [] => none
  | (k', v') :: t => if k' = k then some v' else alGet k t

theorem kvSet_eq (k v : Bytes) (l : KV) : kvSet k v l = alSet k v l := by
  induction l <;> simp only [kvSet, alSet, *]

theorem secSet_eq (s : Bytes) (kv : KV) (c : Sections) : secSet s kv c = alSet s kv c := by
  induction c <;> simp only [secSet, alSet, *]

theorem kvGet_eq (k : Bytes) (l : KV) : kvGet k l = alGet k l := by
  induction l <;> simp only [kvGet, alGet, *]

theorem secGet_eq (s : Bytes) (c : Sections) : secGet s c = alGet s c := by
  induction c <;> simp only [secGet, alGet, *]

theorem alGet_alSet {β : Type} (k k' : Bytes) (v : β) (l : List (Bytes × β)) :
    alGet k' (alSet k v l) = if k' = k then some v else alGet k' l := by
  induction l with
  | nil => by_cases h : k' = k <;> simp [alSet, alGet, h, Ne.symm]
  | cons p t ih =>
    by_cases h1 : p.1 = k
    · by_cases h2 : k' = k <;> simp [alSet, alGet, h1, h2, Ne.symm]
    · simp only [alSet, alGet, h1, if_false, ih]
      by_cases h2 : k' = k <;> simp [h1, h2]

theorem kvGet_kvSet (k v k' : Bytes) (kv : KV) :
    kvGet k' (kvSet k v kv) = if k' = k then some v else kvGet k' kv := by
  rw [kvSet_eq, kvGet_eq, kvGet_eq, alGet_alSet]

theorem secGet_secSet (s s' : Bytes) (kv : KV) (c : Sections) :
    secGet s' (secSet s kv c) = if s' = s then some kv else secGet s' c := by
  rw [secSet_eq, secGet_eq, secGet_eq, alGet_alSet]

theorem alSet_alSet {β : Type} (k : Bytes) (v v' : β) (l : List (Bytes × β)) :
    alSet k v' (alSet k v l) = alSet k v' l := by
  induction l with
  | nil => simp [alSet]
  | cons p t ih => by_cases h : p.1 = k <;> simp [alSet, h, ih]

theorem alSet_new {β : Type} (k : Bytes) (v : β) (l : List (Bytes × β)) (h : ((l ++ [(k, v)]).map (·.1)).Nodup) :
    alSet k v l = l ++ [(k, v)] := by
  induction l with
  | nil => rfl
  | cons p t ih =>
    rw [List.cons_append, List.map_cons, List.nodup_cons] at h
    have : p.1 ≠ k := fun e => h.1 (by simp [e])
    simp [alSet, this, ih h.2]

theorem alGet_mem {β : Type} {k : Bytes} {v : β} {l : List (Bytes × β)} (h : alGet k l = some v) : (k, v) ∈ l := by
  induction l with
  | nil => cases h
  | cons p t ih =>
    by_cases hk : p.1 = k <;> simp only [alGet, hk, if_true, if_false] at h
    · cases h; exact hk ▸ List.mem_cons_self
    · exact List.mem_cons_of_mem _ (ih h)

theorem alSet_ok {β : Type} (k : Bytes) (v : β) (l : List (Bytes × β)) (P : Bytes × β → Prop) (hkv : P (k, v))
    (h : (l.map (·.1)).Nodup ∧ ∀ q ∈ l, P q) : ((alSet k v l).map (·.1)).Nodup ∧ ∀ q ∈ alSet k v l, P q := by
  induction l generalizing P with
  | nil => simpa [alSet] using hkv
  | cons p t ih =>
    obtain ⟨hnd, hp, ht⟩ := h.imp List.nodup_cons.1 List.forall_mem_cons.1
    by_cases hk : p.1 = k
    · simp only [alSet, hk, if_true, List.map_cons, List.nodup_cons, List.forall_mem_cons]
      exact ⟨hk ▸ hnd, hkv, ht⟩
    · -- the hypothesis at `P := (·.1 ≠ p.1)` says that the head's key is still absent from the updated tail
      have hnew := (ih (·.1 ≠ p.1) (Ne.symm hk) ⟨hnd.2, fun q hq e => hnd.1 (List.mem_map.2 ⟨q, hq, e⟩)⟩).2
      obtain ⟨ih1, ih2⟩ := ih P hkv ⟨hnd.2, ht⟩
      simp only [alSet, hk, if_false, List.map_cons, List.nodup_cons, List.forall_mem_cons, List.mem_map, not_exists, not_and]
      exact ⟨⟨hnew, ih1⟩, hp, ih2⟩

theorem get_eq (c : Sections) (s k : Bytes) : get c s k = alGet k ((alGet s c).getD []) := by
  rw [Config.get, secGet_eq]; cases alGet s c <;> simp [kvGet_eq, alGet]

theorem add_eq (c : Sections) (s k v : Bytes) : add c s k v = alSet s (alSet k v ((alGet s c).getD [])) c := by
  rw [add, secGet_eq]; cases alGet s c <;> simp [secSet_eq, kvSet_eq, alSet]

theorem trimSpace_pad (a b c : Bytes) (ha : a.all Bytes.isAsciiSpace = true) (hc : c.all Bytes.isAsciiSpace = true)
    (hb : Trimmed b) : Bytes.trimSpace (a ++ b ++ c) = b := by
  unfold Bytes.trimSpace
  cases b with
  | nil =>
    rw [List.append_nil, ← List.append_nil (a ++ c), Bytes.trimLeft_append (a ++ c) [] (by simp [ha, hc]) nofun]
    rfl
  | cons x b =>
    rw [List.append_assoc, Bytes.trimLeft_append a (x :: b ++ c) ha hb.1, List.reverse_append,
      Bytes.trimLeft_append _ _ (by simpa using hc) (List.head?_reverse ▸ hb.2), List.reverse_reverse]

theorem keyLine_eq (k v : Bytes) : keyLine (k, v) = 9 :: (k ++ [32] ++ 61 :: 32 :: v) := by simp [keyLine, asc]

theorem keyLine_step (acc : Sections) (s : Bytes) (kvs : KV) (k v : Bytes) (rest : List Bytes)
    (hk : KeyOK k) (hv : ValOK v) (hget : alGet s acc = some kvs) :
    loadLines acc (some s) (keyLine (k, v) :: rest) = loadLines (alSet s (alSet k v kvs) acc) (some s) rest := by
  -- the line's body as an opaque `t`: keeps `rfl` and `simp` below off the long term
  obtain ⟨t, ht⟩ : ∃ t, t = k ++ [32] ++ 61 :: 32 :: v := ⟨_, rfl⟩
  have hnot : isIdentLine (9 :: t) = false := rfl
  have hrm : Bytes.removeByte 9 (9 :: t) = t := Bytes.removeByte_none 9 t (by simp [ht, hk.1, hv.1])
  have hblank := List.ne_nil_of_mem (Bytes.mem_trimSpace t 61 (by simp [ht]) rfl)
  have hcut : Bytes.cut1 61 t = (k ++ [32], some (32 :: v)) := ht ▸ Bytes.cut1_append _ _ _ (by simp [hk.2.1])
  have hk' : Bytes.trimSpace (k ++ [32]) = k := trimSpace_pad [] k [32] rfl rfl hk.2.2.2
  have hv' : Bytes.trimSpace (32 :: v) = v := by simpa using trimSpace_pad [32] v [] rfl rfl hv.2.2
  rw [loadLines, keyLine_eq, ← ht]
  simp only [hnot, Bool.false_eq_true, if_false, hrm, hblank, hcut, secGet_eq, hget, secSet_eq, kvSet_eq, hk', hv']

theorem headLine_step (acc : Sections) (ident : Option Bytes) (s : Bytes) (rest : List Bytes) (hs : s ≠ []) :
    loadLines acc ident (headLine s :: rest) = loadLines (alSet s [] acc) (some s) rest := by
  obtain ⟨x, s, rfl⟩ := List.exists_cons_of_ne_nil hs
  have : (x :: (s ++ [93])).dropLast = x :: s := List.dropLast_concat (l₁ := x :: s)
  rw [loadLines]
  simp [headLine, isIdentLine, secSet_eq, List.getLast?_cons, List.getLast?_append, this]

theorem kv_lines (acc : Sections) (s : Bytes) (kvs kv : KV) (rest : List Bytes)
    (hkv : ∀ q ∈ kv, KeyOK q.1 ∧ ValOK q.2) (hnd : (keys (kvs ++ kv)).Nodup) :
    loadLines (alSet s kvs acc) (some s) (kv.map keyLine ++ rest) = loadLines (alSet s (kvs ++ kv) acc) (some s) rest := by
  induction kv generalizing kvs with
  | nil => simp
  | cons q kv ih =>
    obtain ⟨k, v⟩ := q
    obtain ⟨hk, hv⟩ := hkv _ List.mem_cons_self
    rw [List.append_cons] at hnd ⊢
    rw [List.map_cons, List.cons_append, keyLine_step _ s kvs k v _ hk hv (by rw [alGet_alSet, if_pos rfl]), alSet_alSet,
      alSet_new k v kvs ((List.sublist_append_left _ kv).map _ |>.nodup hnd),
      ih _ (fun x hx => hkv x (List.mem_cons_of_mem _ hx)) hnd]

theorem load_lines (acc : Sections) (ident : Option Bytes) (c : Sections) (h : CfgOK (acc ++ c)) :
    loadLines acc ident (linesOf c) = some (acc ++ c) := by
  induction c generalizing acc ident with
  | nil => simp [linesOf, loadLines]
  | cons p c ih =>
    obtain ⟨s, kv⟩ := p
    obtain ⟨hs, -, hk, hq⟩ := h.2 (s, kv) (by simp)
    rw [List.append_cons] at h ⊢
    rw [← ih _ (some s) h, ← alSet_new s kv acc ((List.sublist_append_left _ c).map _ |>.nodup h.1)]
    show loadLines acc ident (headLine s :: (kv.map keyLine ++ linesOf c)) = _
    rw [headLine_step _ _ _ _ hs.1, kv_lines acc s [] kv _ (fun q m => (hq q m).imp_right And.left) hk]
    rfl

/-- **Lossless round trip of a configuration file**: what `Config.Write` renders, `Config.load`
    reads back unchanged — every section, every key, every value (including values containing `=`). -/
theorem parse_render (c : Sections) (h : CfgOK c) : parse (render c) = some c := by
  have hlines : ∀ l ∈ linesOf c, Bytes.LineOK l := by
    intro l hl
    simp only [linesOf, List.mem_flatMap, List.mem_cons, List.mem_map] at hl
    obtain ⟨p, hpc, hl⟩ := hl
    obtain ⟨hs, hhl, -, hq⟩ := h.2 p hpc
    rcases hl with rfl | ⟨⟨k, v⟩, hqm, rfl⟩
    · exact ⟨by simp [headLine, hs.2], hhl, by simp [headLine, List.getLast?_cons, List.getLast?_append]⟩
    · obtain ⟨hk, hv, hlen⟩ := hq _ hqm
      refine ⟨by simp [keyLine_eq, hk.2.2.1, hv.2.1], hlen, ?_⟩
      have : (keyLine (k, v)).getLast? = some (v.getLast?.getD 32) := by
        simp [keyLine_eq, List.getLast?_cons, List.getLast?_append]
      rw [this, ne_eq, Option.some.injEq]
      cases hx : v.getLast? with
      | none => decide
      | some x => rintro (rfl : x = 13); exact absurd (hv.2.2.2 13 hx) (by decide)
  rw [parse, render_eq, Bytes.scanLines_unlines _ hlines]
  exact load_lines [] none c h

/-- **Setting one key never loses or alters another key or section**: after `config s.k v` the value
    of `s.k` is `v` and every other (section, key) reads exactly as before. -/
theorem add_get (c : Sections) (s k v s' k' : Bytes) :
    get (add c s k v) s' k' = if s' = s ∧ k' = k then some v else get c s' k' := by
  rw [get_eq, get_eq, add_eq, alGet_alSet]
  by_cases h : s' = s
  · subst h; simp [alGet_alSet]
  · simp [h]

/-- **A local setting overrides the global one; the global one is used when no local one exists.** -/
theorem local_overrides_global (loc glob : Sections) (k v : Bytes) (h : get loc (asc "user") k = some v) :
    userField loc glob k = v := by simp [userField, h]

theorem global_fallback (loc glob : Sections) (k : Bytes) (h : get loc (asc "user") k = none) :
    userField loc glob k = (get glob (asc "user") k).getD [] := by simp [userField, h]

theorem get_isSome {c : Sections} {s k : Bytes} (h : (get c s k).isSome) : (secGet s c).isSome := by
  unfold Config.get at h
  cases hs : secGet s c
  · simp [hs] at h
  · rfl

/-- **`commit` is gated on both a name and an e-mail being configured** (in either file). -/
theorem isUserSet_iff (loc glob : Sections) :
    isUserSet loc glob = true ↔
      ((get loc (asc "user") (asc "name")).isSome ∨ (get glob (asc "user") (asc "name")).isSome) ∧
      ((get loc (asc "user") (asc "email")).isSome ∨ (get glob (asc "user") (asc "email")).isSome) := by
  unfold isUserSet
  simp only [Bool.and_eq_true, Bool.or_eq_true]
  exact ⟨fun ⟨⟨_, h2⟩, h3⟩ => ⟨h2, h3⟩, fun ⟨h2, h3⟩ => ⟨⟨h2.imp get_isSome get_isSome, h2⟩, h3⟩⟩

/-- non-vacuity: a value with `=`, brackets, a hash sign, quotes and non-ASCII bytes is a legal value -/
example : ValOK (asc "a=b [c] # \"q\"" ++ [195, 188]) := by
  exact ⟨by decide, by decide, by decide, by decide⟩

end C20
