import GoitProofs.Lemmas.WorldStore
import GoitProofs.Props.WorldFrame

/-! C03, clauses `names`, `branches`, `head`, as an invariant of every history (`Conn`): a sub-command moves `refs/heads` and
    HEAD by a chain of `RefStep`s, and every `RefStep` keeps them connected. `NoClash` is about one object per invocation,
    the commit object a `commit` stores: no stored object of other content under its id, and below 2^63 bytes. Writing
    `HeadOK` down as an invariant is what exposed the defect repaired in 2c05b96 (a branch name starting with a line break). -/

namespace W

/-- a name `HEAD` can hold on its one line: non-empty, not starting with a line break -/
def LineName (b : Bytes) : Prop := ∃ c rest, b = c :: rest ∧ c ≠ 10

def BranchesOK (H : HashFn) (w : World) : Prop :=
  ∀ b raw, aget w.heads b = some raw → LineName b ∧ ∃ id, raw = hashStr id ∧ (commitAt H w id).isSome = true

def HeadOK (w : World) : Prop :=
  ∃ b, w.head = some (Head.render b) ∧ LineName b ∧ ((∀ n, aget w.heads n = none) ∨ (aget w.heads b).isSome = true)

-- `fresh`: before `init` there is no branch file, so `init` meets `HeadOK` by its "no branch exists" alternative
structure Conn (H : HashFn) (w : World) : Prop where
  named : Named H w
  branches : BranchesOK H w
  head : w.inited = true → HeadOK w
  fresh : w.inited = false → w.heads = []

theorem exists_sound (h : Refs.Heads) (n : Bytes) (he : Refs.exists_ h n = true) : n ∈ Refs.names h := by
  unfold Refs.exists_ Refs.getBranchPos at he
  split at he
  · exact List.mem_of_getElem? (bsearchTop_sound _ _ _ ‹_›)
  · cases he

/-- `m`: the files in their order before sorting -/
theorem refs_load_inv (files : List (Bytes × Bytes)) (refs : Refs.Heads) (h : Refs.load files = some refs) :
    ∃ m, refs = Refs.sortHeads m ∧ m.map (·.1) = files.map (·.1) ∧ ∀ q ∈ m, ∃ f ∈ files, f.1 = q.1 ∧ readHash f.2 = some q.2 := by
  obtain ⟨m, hm, rfl⟩ := Option.map_eq_some_iff.mp h
  refine ⟨m, rfl, ?_⟩
  clear h
  induction files generalizing m with
  | nil => cases hm; exact ⟨rfl, nofun⟩
  | cons x xs ih =>
    simp only [List.mapM_cons, Option.bind_eq_bind, Option.bind_eq_some_iff, Option.pure_def, Option.some.injEq,
      Option.map_eq_some_iff] at hm
    obtain ⟨_, ⟨v, hv, rfl⟩, r, hr, rfl⟩ := hm
    obtain ⟨h1, h2⟩ := ih r hr
    refine ⟨by rw [List.map_cons, List.map_cons, h1], fun q hq => ?_⟩
    rcases List.mem_cons.mp hq with rfl | hq
    · exact ⟨x, List.mem_cons_self, rfl, hv⟩
    · obtain ⟨f, hf, h3⟩ := h2 q hq
      exact ⟨f, List.mem_cons_of_mem _ hf, h3⟩

theorem load_names (files : List (Bytes × Bytes)) (refs : Refs.Heads) (h : Refs.load files = some refs) (n : Bytes)
    (hn : n ∈ Refs.names refs) : (aget files n).isSome = true := by
  obtain ⟨m, rfl, hk, _⟩ := refs_load_inv files refs h
  obtain ⟨q, hq, rfl⟩ := List.mem_map.mp hn
  have : q.1 ∈ files.map (·.1) := hk ▸ List.mem_map.mpr ⟨q, (List.mergeSort_perm m _).mem_iff.mp hq, rfl⟩
  obtain ⟨p, hp, hpn⟩ := List.mem_map.mp this
  unfold aget
  rw [Option.isSome_map, List.find?_isSome]
  exact ⟨p, hp, by simp [hpn]⟩

theorem load_exists (H : HashFn) (w : World) (l : Loaded) (h : load H w = some l) (n : Bytes)
    (he : Refs.exists_ l.refs n = true) : (aget w.heads n).isSome = true :=
  load_names w.heads _ (load_refs H w l h) n (exists_sound _ n he)

theorem headCommit_stored (H : HashFn) (w : World) (l : Loaded) (hl : load H w = some l) (id : Bytes) (c : Commit)
    (hc : l.headCommit = some (id, c)) : (commitAt H w id).isSome = true := by
  rw [(load_headCommit H w l hl id c hc).1]; rfl

theorem headBranch_exists (H : HashFn) (w : World) (l : Loaded) (hl : load H w = some l) (id : Bytes) (c : Commit)
    (hc : l.headCommit = some (id, c)) : (aget w.heads (headRef w)).isSome = true := by
  obtain ⟨_, raw, hr, _⟩ := load_headCommit H w l hl id c hc
  rw [← load_ref H w l hl, hr]; rfl

theorem parse_render (b : Bytes) (hb : LineName b) : Head.parse (Head.render b) = some b := by
  obtain ⟨c, rest, rfl, hc⟩ := hb
  have e : Head.render (c :: rest) = (114 : UInt8) :: (asc "ef: refs/heads/" ++ c :: rest) := by
    simp [Head.render, Head.refPrefix, asc]
  have hp : Bytes.hasPrefix (Head.render (c :: rest)) Head.refPrefix = true := by
    simp [Head.render, Head.refPrefix, asc, Bytes.hasPrefix]
  have hd : (Head.render (c :: rest)).drop Head.refPrefix.length = c :: rest := by simp [Head.render]
  unfold Head.parse
  rw [e]; unfold Head.isRef Head.afterPrefix; rw [← e]
  simp [Head.matchesAt, hp, hd, hc]

theorem headRef_of_headOK (w : World) (b : Bytes) (h : w.head = some (Head.render b)) (hb : LineName b) : headRef w = b := by
  unfold headRef; rw [h]; simp [parse_render b hb]

theorem lineName_of_valid (n : Bytes) (h : Refs.validName n = true) : LineName n := by
  unfold Refs.validName at h
  cases n with
  | nil => simp at h
  | cons c rest =>
    refine ⟨c, rest, rfl, ?_⟩
    intro hc; subst hc
    simp at h

theorem add_ok_valid (h : Refs.Heads) (n id : Bytes) (a : Refs.Heads) (hadd : Refs.add h n id = .ok a) : Refs.validName n = true := by
  cases hv : Refs.validName n with
  | false => rw [C10.add_invalid h n id hv] at hadd; cases hadd
  | true => rfl

theorem rename_ok_facts (h : Refs.Heads) (cur new : Bytes) (a : Refs.Heads) (hr : Refs.rename h cur new = .ok a) :
    Refs.validName new = true ∧ cur ≠ new := by
  unfold Refs.rename at hr
  split at hr
  · cases hr
  · rename_i hv
    refine ⟨by simpa using hv, ?_⟩
    intro e; subst e
    cases hp : Refs.getBranchPos h cur <;> simp [hp] at hr

theorem delete_ok_ne (h : Refs.Heads) (cur del : Bytes) (a : Refs.Heads) (hd : Refs.delete h cur del = .ok a) : del ≠ cur :=
  fun e => by rw [e, C10.delete_current_refused] at hd; cases hd

/-- after a step each branch file is as before, or is the one just written -/
theorem branchesOK_step {H : HashFn} {w w' : World} (hb : BranchesOK H w) (ho : OL w.objs w'.objs)
    (h : ∀ b raw, aget w'.heads b = some raw → aget w.heads b = some raw ∨
      LineName b ∧ ∃ id, raw = hashStr id ∧ (commitAt H w' id).isSome = true) : BranchesOK H w' := fun b raw hg =>
  (h b raw hg).elim (fun h0 => let ⟨hl, id, h1, h2⟩ := hb b raw h0; ⟨hl, id, h1, commitAt_mono H w w' ho id h2⟩) id

-- `setBranch`, `hpre`: a branch other than HEAD's is written only when HEAD's exists; otherwise `HeadOK` would lose its
-- "no branch exists" alternative while HEAD's branch is still missing
inductive RefStep (H : HashFn) : World → World → Prop where
  | same {w w' : World} (ho : OL w.objs w'.objs) (hh : w'.heads = w.heads) (hd : w'.head = w.head) : RefStep H w w'
  | setBranch {w w' : World} (n id : Bytes) (ho : OL w.objs w'.objs) (hn : LineName n)
      (hc : (commitAt H w' id).isSome = true) (hpre : n = headRef w ∨ (aget w.heads (headRef w)).isSome = true)
      (hh : w'.heads = aset w.heads n (hashStr id)) (hd : w'.head = w.head) : RefStep H w w'
  | delBranch {w w' : World} (n : Bytes) (ho : OL w.objs w'.objs) (hne : n ≠ headRef w)
      (hh : w'.heads = adel w.heads n) (hd : w'.head = w.head) : RefStep H w w'
  | setHead {w w' : World} (n : Bytes) (ho : OL w.objs w'.objs) (hk : (aget w.heads n).isSome = true)
      (hh : w'.heads = w.heads) (hd : w'.head = some (Head.render n)) : RefStep H w w'
  | trans {a b c : World} : RefStep H a b → RefStep H b c → RefStep H a c

theorem RefStep.refl {H : HashFn} (w : World) : RefStep H w w := .same (OL.refl _) rfl rfl

theorem RefStep.ol {H : HashFn} {w w' : World} (h : RefStep H w w') : OL w.objs w'.objs := by
  induction h with
  | same ho _ _ => exact ho
  | setBranch _ _ ho _ _ _ _ _ => exact ho
  | delBranch _ ho _ _ _ => exact ho
  | setHead _ ho _ _ _ => exact ho
  | trans _ _ ih1 ih2 => exact ih1.trans ih2

theorem RefStep.keeps {H : HashFn} {w w' : World} (h : RefStep H w w') (hb : BranchesOK H w) (hh : HeadOK w) :
    BranchesOK H w' ∧ HeadOK w' := by
  induction h with
  | same ho hhs hd =>
    refine ⟨branchesOK_step hb ho fun b raw hg => .inl (hhs ▸ hg), ?_⟩
    obtain ⟨b, h1, h2, h3⟩ := hh
    exact ⟨b, by rw [hd]; exact h1, h2, by rw [hhs]; exact h3⟩
  | @setBranch w w' n id ho hn hc hpre hhs hd =>
    refine ⟨branchesOK_step hb ho fun b raw hg => ?_, ?_⟩
    · rw [hhs, aget_aset] at hg
      split at hg
      · next e => cases hg; exact .inr ⟨e ▸ hn, id, rfl, hc⟩
      · exact .inl hg
    obtain ⟨b, h1, h2, h3⟩ := hh
    have hr : headRef w = b := headRef_of_headOK w b h1 h2
    refine ⟨b, by rw [hd]; exact h1, h2, Or.inr ?_⟩
    rw [hhs]
    by_cases hbn : b = n
    · subst hbn; simp [aget_aset_self]
    · rw [aget_aset_ne _ _ _ _ hbn]
      rcases hpre with hp | hp
      · exact absurd (hr ▸ hp.symm) hbn
      · rw [hr] at hp; exact hp
  | @delBranch w w' n ho hne hhs hd =>
    refine ⟨branchesOK_step hb ho fun b raw hg => ?_, ?_⟩
    · rw [hhs, aget_adel] at hg
      split at hg
      · cases hg
      · exact .inl hg
    obtain ⟨b, h1, h2, h3⟩ := hh
    have hr : headRef w = b := headRef_of_headOK w b h1 h2
    refine ⟨b, by rw [hd]; exact h1, h2, ?_⟩
    rw [hhs]
    have hbn : b ≠ n := fun e => hne (by rw [hr]; exact e.symm)
    rcases h3 with h3 | h3
    · left; intro m
      by_cases hm : m = n
      · subst hm; exact aget_adel_self _ _
      · rw [aget_adel_ne _ _ _ hm]; exact h3 m
    · right; rw [aget_adel_ne _ _ _ hbn]; exact h3
  | @setHead w w' n ho hk hhs hd =>
    refine ⟨branchesOK_step hb ho fun b raw hg => .inl (hhs ▸ hg), ?_⟩
    cases hg : aget w.heads n with
    | none => rw [hg] at hk; simp at hk
    | some raw => exact ⟨n, hd, (hb n raw hg).1, Or.inr (by rw [hhs, hg]; rfl)⟩
  | trans _ _ ih1 ih2 =>
    obtain ⟨b1, h1⟩ := ih1 hb hh
    exact ih2 b1 h1

theorem RefStep.setBranchHead (H : HashFn) {w w' : World} (n id : Bytes) (ho : OL w.objs w'.objs) (hn : LineName n)
    (hc : (commitAt H w id).isSome = true) (hpre : (aget w.heads (headRef w)).isSome = true)
    (hh : w'.heads = aset w.heads n (hashStr id)) (hd : w'.head = some (Head.render n)) : RefStep H w w' :=
  .trans (b := { w with heads := aset w.heads n (hashStr id) }) (.setBranch n id (OL.refl _) hn hc (Or.inr hpre) rfl rfl)
    (.setHead n ho (by rw [aget_aset_self]; rfl) hh hd)

theorem switchCmd_refstep (H : HashFn) (w : World) (l : Loaded) (hl : load H w = some l) (args : List Bytes) (create : Bytes)
    (tz : Int) (ts : List Int) : RefStep H w (switchCmd H w l args create tz ts).1 := by
  rcases switchCmd_cases H w l args create tz ts with e | ⟨n, e⟩ | e <;> rw [e]
  · exact .refl w
  · rcases switchTo_cases H w l n tz ts with e | e | ⟨id, c, hex, _, _, e⟩ <;> rw [e]
    · exact .refl w
    · exact .refl w
    · exact .setHead n (OL.refl _) (load_exists H w l hl n hex) rfl rfl
  · rcases switchCreate_cases w l create tz ts with e | e | ⟨id, c, a, hhc, hadd, e⟩ <;> rw [e]
    · exact .refl w
    · exact .refl w
    · exact .setBranchHead H create id (OL.refl _) (lineName_of_valid create (add_ok_valid _ _ _ _ hadd))
        (headCommit_stored H w l hl id c hhc) (headBranch_exists H w l hl id c hhc) rfl rfl

theorem branchCmd_refstep (H : HashFn) (w : World) (l : Loaded) (hl : load H w = some l) (args : List Bytes) (list : Bool)
    (ren del : Bytes) (tz : Int) (ts : List Int) : RefStep H w (branchCmd w l args list ren del tz ts).1 := by
  rcases branchCmd_cases w l args list ren del tz ts with e | ⟨out, e⟩ | ⟨n, _, e⟩ | e | e <;> rw [e]
  · exact .refl w
  · exact .refl w
  · rcases branchCreate_cases w l n tz ts with e | ⟨id, c, a, hhc, hadd, e⟩ <;> rw [e]
    · exact .refl w
    · exact .setBranch n id (OL.refl _) (lineName_of_valid n (add_ok_valid _ _ _ _ hadd))
        (headCommit_stored H w l hl id c hhc) (Or.inr (headBranch_exists H w l hl id c hhc)) rfl rfl
  · rcases branchRename_cases w l ren tz ts with e | e | ⟨id, c, a, hr, hhc, e⟩ <;> rw [e]
    · exact .refl w
    · exact .refl w
    · obtain ⟨hval, hne⟩ := rename_ok_facts _ _ _ _ hr
      have hln := lineName_of_valid ren hval
      -- new file, then HEAD, then the old file goes
      exact .trans (b := setHead { w with heads := aset w.heads ren (hashStr id) } ren)
        (.setBranchHead H ren id (OL.refl _) hln (headCommit_stored H w l hl id c hhc) (headBranch_exists H w l hl id c hhc) rfl rfl)
        (.delBranch l.ref (OL.refl _) (by rw [headRef_of_headOK _ ren rfl hln]; exact hne) rfl rfl)
  · rcases branchDelete_cases w l del with e | e | ⟨a, hd, e⟩ <;> rw [e]
    · exact .refl w
    · exact .refl w
    · exact .delBranch del (OL.refl _) (by rw [← load_ref H w l hl]; exact delete_ok_ne _ _ _ _ hd) rfl rfl

theorem updateRefCmd_refstep (H : HashFn) (w : World) (l : Loaded) (hl : load H w = some l) (args : List Bytes)
    (hhd : w.head.isNone = false) (hbr : BranchesOK H w) (hho : HeadOK w) : RefStep H w (updateRefCmd H w l args).1 := by
  rcases updateRefCmd_cases H w l args with e | e | ⟨path, hs, id, d, _, _, _, hg, e⟩ <;> rw [e]
  · exact .refl w
  · exact .refl w
  generalize (Bytes.split1 47 path).getLast?.getD [] = b
  rw [updateRefTo_eq]; split
  · exact .refl w
  · next hn => rw [hhd] at hn; cases hn
  · exact .refl w
  · next hex _ hp =>
    have hk := load_exists H w l hl b hex
    cases hgb : aget w.heads b with
    | none => rw [hgb] at hk; cases hk
    | some raw =>
      -- some branch exists, so HEAD's branch exists
      obtain ⟨hb0, hh1, hh2, hh3⟩ := hho
      have hpre : (aget w.heads (headRef w)).isSome = true := by
        rcases hh3 with h3 | h3
        · rw [h3 b] at hgb; cases hgb
        · rw [headRef_of_headOK w hb0 hh1 hh2]; exact h3
      refine .setBranchHead H b id (OL.refl _) (hbr b raw hgb).1 ?_ hpre rfl rfl
      rw [commitAt_of_get H w id d hg]
      exact (Option.isSome_iff_ne_none.mpr fun e => by rw [e] at hp; cases hp)

theorem resetCmd_refstep (H : HashFn) (w : World) (l : Loaded) (hl : load H w = some l) (s m h : Bool) (args : List Bytes)
    (tz : Int) (ts : List Int) (hln : LineName l.ref) : RefStep H w (resetCmd H w l s m h args tz ts).1 := by
  rcases resetCmd_cases H w l s m h args tz ts with e | ⟨s, h, arg, t, prev, _, _, _, e⟩ <;> rw [e]
  · exact .refl w
  -- whatever else it does, `reset` rewrites the current branch's file and leaves the objects and HEAD alone
  have key : ∀ c, commitAt H w t = some c → ∀ w' : World, w'.objs = w.objs → w'.heads = aset w.heads l.ref (hashStr t) →
      w'.head = w.head → RefStep H w w' :=
    fun c hc w' ho hh hd => .setBranch l.ref t (ObjsLe.of_eq ho) hln
      (by rw [commitAt_of_aget H w w' t (by rw [ho]), hc]; rfl)
      (Or.inl (load_ref H w l hl)) hh hd
  rw [resetTo_eq]; split
  · exact .refl w
  · exact key _ ‹_› _ rfl rfl rfl
  · exact key _ ‹_› _ rfl rfl rfl
  · exact key _ ‹_› _ (writeEntries_objs H _ _) (writeEntries_heads H _ _) (writeEntries_head H _ _)
  · exact key _ ‹_› _ rfl rfl rfl

def CommitFits (w0 : World) (id data : Bytes) : Prop :=
  (∀ c0, aget w0.objs id = some c0 → c0 = Obj.encode .commit data) ∧ data.length ≤ Fmt.int64Max

theorem commitAt_putObj (H : HashFn) (w0 : World) (id data : Bytes) (hid : id = Obj.id H .commit data)
    (hfit : CommitFits w0 id data) : commitAt H (putObj w0 id (Obj.encode .commit data)) id = Commit.parse data := by
  subst hid
  exact commitAt_of_get H _ _ data (get_stored H _ .commit data (by decide) hfit.2 (aget_putObj_self w0 _ _ hfit.1))

/-- the commit object an invocation makes, if it is a `commit` that gets that far -/
def commitObject (H : HashFn) (w : World) (i : Inv) : Option (Bytes × Bytes) :=
  match i.cmd, load H w with
  | .commit msg, some l =>
    match (if l.headCommit.isNone then (Res.ok none : Res (Option (List Entry))) else (headSnap H w l).map some) with
    | .ok snap =>
      match Cmds.commitCmd H (commitIn w l snap msg i.tz (clock i.ts 0)) with
      | .ok p => some p
      | _ => none
    | _ => none
  | _, _ => none

/-- the branch file is about to name `id`: for `id` to read back as this commit nothing else may sit under it already -/
def NoClash (H : HashFn) (w : World) (i : Inv) : Prop :=
  ∀ id data l, commitObject H w i = some (id, data) → load H w = some l →
    CommitFits (putObjs w (TreeBuild.writeTree H l.idx).writes.reverse) id data

theorem isCommit_of_commitObject {H : HashFn} {w : World} {i : Inv} {p : Bytes × Bytes} (h : commitObject H w i = some p) :
    ∃ m, i.cmd = .commit m := by
  unfold commitObject at h
  split at h
  · exact ⟨_, by assumption⟩
  · cases h

theorem commitObject_of_commitCmd (H : HashFn) (w : World) (l : Loaded) (hl : load H w = some l) (msg : Bytes) (tz : Int) (ts : List Int)
    (snap : Option (List Entry)) (p : Bytes × Bytes) (hs : commitSnap H w l = .ok snap)
    (hcc : Cmds.commitCmd H (commitIn w l snap msg tz (clock ts 0)) = .ok p) : commitObject H w ⟨.commit msg, tz, ts⟩ = some p := by
  unfold commitSnap at hs
  unfold commitObject
  simp only [hl, hs, hcc]

theorem commitCmd_refstep (H : HashFn) (w : World) (l : Loaded) (hl : load H w = some l) (msg : Bytes) (tz : Int) (ts : List Int)
    (hho : HeadOK w) (hnc : NoClash H w ⟨.commit msg, tz, ts⟩) : RefStep H w (commitCmd H w l msg tz ts).1 := by
  rcases commitCmd_cases H w l msg tz ts with ⟨_, e⟩ | ⟨_, e⟩ | ⟨snap, hs, ⟨_, _, e⟩ | ⟨_, _, e⟩ | ⟨id, data, hcc, e⟩⟩ <;> rw [e]
  · exact .refl w
  · exact .refl w
  · exact .refl w
  · exact .same (putObjs_le w _) (putObjs_heads' w _) (putObjs_head' w _)
  obtain ⟨_, _, _, _, _, _, hid, hp, _, _⟩ := C02.commitCmd_ok H _ id data hcc
  have hfit := hnc id data l (commitObject_of_commitCmd H w l hl msg tz ts snap _ hs hcc) hl
  obtain ⟨b, hh1, hh2, _⟩ := hho
  have hr : l.ref = b := by rw [load_ref H w l hl]; exact headRef_of_headOK w b hh1 hh2
  have hol : OL w.objs (commitStore H w l.idx id data).objs := (putObjs_le w _).trans (putObj_le _ _ _)
  have hca : (commitAt H (commitStore H w l.idx id data) id).isSome = true := by
    rw [commitAt_putObj H _ id data hid hfit]; exact hp
  have hhe : (commitStore H w l.idx id data).heads = w.heads := by rw [putObj_heads', putObjs_heads']
  have hhd : (commitStore H w l.idx id data).head = w.head := by rw [putObj_head', putObjs_head']
  rw [commitWrite_eq]; split
  · exact .same hol hhe hhd
  · next hn => rw [hh1] at hn; cases hn
  · -- from here on the store after `commit()` is any world with these four properties
    generalize commitStore H w l.idx id data = w1 at hol hca hhe hhd
    exact .setBranch l.ref id hol (hr ▸ hh2) hca (Or.inl (load_ref H w l hl))
      (show aset w1.heads l.ref (hashStr id) = _ by rw [hhe]) (by rw [hh1, hr]; rfl)

theorem conn_init (H : HashFn) (w : World) (hc : Conn H w) (hi : w.inited = false) : Conn H (initCmd w).1 := by
  rcases initCmd_cases w with e | e | e <;> rw [e]
  · exact hc
  · exact hc
  · have hh : ∀ n, aget w.heads n = none := fun n => by rw [hc.fresh hi]; rfl
    refine ⟨hc.named, fun b raw h => ?_, fun _ => ⟨asc "main", rfl, ⟨109, asc "ain", by decide +kernel, by decide⟩, Or.inl hh⟩, fun h => ?_⟩
    · rw [show aget w.heads b = none from hh b] at h; cases h
    · cases h

theorem run_refstep (H : HashFn) (w : World) (i : Inv) (hc : Conn H w) (hi : w.inited = true) (hnc : NoClash H w i) :
    RefStep H w (run H w i).1 := by
  have hho := hc.head hi
  have hhd : w.head.isNone = false := by obtain ⟨b, h1, _⟩ := hho; rw [h1]; rfl
  -- a sub-command that writes neither a branch file nor HEAD: read off the frame table
  have other : ∀ {P S B}, Writes H P S B w (run H w i).1 → Field.heads ∉ S → Field.head ∉ S → RefStep H w (run H w i).1 :=
    fun hw h1 h2 => .same hw.objs (hw.get .heads h1) (hw.get .head h2)
  have hw := run_writes H w i
  rcases run_cases H w i with e | e | ⟨h, _, _⟩ | ⟨l, _, _, hl, e⟩
  · rw [e]; exact .refl w
  · rw [e]; exact .refl w
  · rw [hi] at h; cases h
  obtain ⟨cmd, tz, ts⟩ := i
  cases cmd with
  | commit msg => rw [e]; exact commitCmd_refstep H w l hl msg tz ts hho hnc
  | branch args list ren del => rw [e]; exact branchCmd_refstep H w l hl _ _ _ _ tz ts
  | switch args create => rw [e]; exact switchCmd_refstep H w l hl _ _ tz ts
  | updateRef args => rw [e]; exact updateRefCmd_refstep H w l hl _ hhd hc.branches hho
  | reset s m h args =>
    obtain ⟨b, hh1, hh2, _⟩ := hho
    have hr : l.ref = b := by rw [load_ref H w l hl]; exact headRef_of_headOK w b hh1 hh2
    rw [e]; exact resetCmd_refstep H w l hl _ _ _ _ tz ts (hr ▸ hh2)
  | init => rw [e]; exact .refl w
  | restore st args => cases st <;> exact other hw (by simp [mayTouch]) (by simp [mayTouch])
  | config g args => cases g <;> exact other hw (by simp [mayTouch]) (by simp [mayTouch])
  | _ => exact other hw (by simp [mayTouch]) (by simp [mayTouch])

theorem inited_untouched (cmd : Cmd) (h : cmd ≠ .init) : Field.inited ∉ mayTouch cmd := by
  cases cmd with
  | init => exact absurd rfl h
  | restore st a => cases st <;> simp [mayTouch]
  | config g a => cases g <;> simp [mayTouch]
  | _ => simp [mayTouch]

theorem run_inited (H : HashFn) (w : World) (i : Inv) (hi : w.inited = true) : (run H w i).1.inited = true := by
  obtain ⟨cmd, tz, ts⟩ := i
  by_cases hc : cmd = .init
  · subst hc
    exact run_elim (motive := fun r => r.1.inited = true) H w _ (fun _ => hi) (fun h _ => by rw [hi] at h; cases h)
      (fun l _ _ _ => hi)
  · exact (frame H w ⟨cmd, tz, ts⟩ .inited (inited_untouched cmd hc)).trans hi

theorem run_conn (H : HashFn) (w : World) (i : Inv) (hc : Conn H w) (hnc : NoClash H w i) : Conn H (run H w i).1 := by
  cases hi : w.inited with
  | true =>
    obtain ⟨hb, hh⟩ := (run_refstep H w i hc hi hnc).keeps hc.branches (hc.head hi)
    exact ⟨(run_writes H w i).named hc.named, hb, fun _ => hh, fun h => by rw [run_inited H w i hi] at h; cases h⟩
  | false =>
    exact run_elim (motive := fun r => Conn H r.1) H w i (fun _ => hc) (fun _ _ => conn_init H w hc hi)
      (fun l h _ _ => by rw [hi] at h; cases h)

def NoClashAll (H : HashFn) : World → List Inv → Prop
  | _, [] => True
  | w, i :: is => NoClash H w i ∧ NoClashAll H (run H w i).1 is

theorem runAll_conn (H : HashFn) (w : World) (is : List Inv) (hc : Conn H w) (hnc : NoClashAll H w is) : Conn H (runAll H w is) := by
  unfold runAll
  induction is generalizing w with
  | nil => exact hc
  | cons i is ih => simp only [List.foldl_cons]; exact ih _ (run_conn H w i hc hnc.1) hnc.2

theorem conn_empty (H : HashFn) : Conn H {} :=
  ⟨fun id c h => by simp [aget] at h, fun b raw h => by simp [aget] at h, fun h => by simp at h, fun _ => rfl⟩

end W

namespace C03

/-- **Connectivity of the reference side, for every history of the whole-repository model** (clauses `names`,
    `branches`, `head`): starting from an empty directory, after any sequence of invocations — successful,
    refused or failing half-way — every object file is named by the hash of its content, every file in
    `refs/heads` holds the hex id of a stored commit object that reads back, and HEAD is a one-line
    `ref: refs/heads/<b>` whose branch exists unless no branch exists at all. The only hypothesis is that no
    commit object made along the way collides with a stored object of other content (and is below 2^63 bytes). -/
theorem world_connected (H : HashFn) (is : List W.Inv) (hnc : W.NoClashAll H {} is) : W.Conn H (W.runAll H {} is) :=
  W.runAll_conn H {} is (W.conn_empty H) hnc

/-- the same from any connected state (one step) -/
theorem world_step_connected (H : HashFn) (w : W.World) (i : W.Inv) (hc : W.Conn H w) (hnc : W.NoClash H w i) :
    W.Conn H (W.run H w i).1 := W.run_conn H w i hc hnc

/-- a history without `commit` meets the hypothesis outright -/
theorem noClash_of_not_commit (H : HashFn) (w : W.World) (i : W.Inv) (h : ∀ m, i.cmd ≠ .commit m) : W.NoClash H w i :=
  fun _ _ _ hco _ => let ⟨m, hm⟩ := W.isCommit_of_commitObject hco; absurd hm (h m)

/-- non-vacuity: `init` in the empty directory is such a history, and its result is not trivial (HEAD is set) -/
example :
    let is : List W.Inv := [⟨.init, 0, []⟩]
    W.NoClashAll sha1Fn {} is ∧ (W.runAll sha1Fn {} is).head = some (asc "ref: refs/heads/main") := by
  refine ⟨⟨noClash_of_not_commit _ _ _ (by intro m h; cases h), trivial⟩, by decide⟩

end C03
