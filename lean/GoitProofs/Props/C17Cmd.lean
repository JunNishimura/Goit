import GoitProofs.Props.C09
import GoitProofs.Props.C13

/-! # C17 at command level: no form of `add` stages a path inside Goit's own directory; `status` lists none and `restore` writes none

On the command models; `Cmds.add` is compared with the real `add` on every add of the generated histories,
including arguments that name `.goit`, files inside it and non-normalised spellings of them. -/

namespace C17

open IndexOps C06 Cmds C04

/-- a path inside Goit's metadata directory (or the directory itself) -/
def IsMeta (p : Bytes) : Prop := p = asc ".goit" ∨ Bytes.hasPrefix p (asc ".goit/") = true

/-- **Goit's own directory is always ignored**, whatever `.goitignore` says and whatever is on disk or staged -/
theorem ignored_meta (w : WS) (p : Bytes) (h : IsMeta p) : ignored w p = true := by
  have hd : isDirOnDisk w p = true := by
    unfold isDirOnDisk
    rcases h with rfl | h
    · simp only [beq_self_eq_true, Bool.or_true, Bool.true_or]
    · simp only [h, Bool.or_true]
  -- the target is `p` or `p/`; either way it starts with `.goit/`
  have ht : Bytes.hasPrefix (Ignore.target p (existsOnDisk w p) (isDirOnDisk w p) (isDir w.index p)) (asc ".goit/") = true := by
    simp only [Ignore.target, existsOnDisk, hd, Bool.or_true, Bool.not_true, Bool.false_eq_true, if_false, Bool.true_and]
    rcases h with rfl | h
    · rw [if_pos (by decide +kernel)]; decide +kernel
    · split
      · exact Bytes.hasPrefix_append_right _ _ _ h
      · exact h
  simp only [ignored, Ignore.matchesTarget, Ignore.isMeta, Ignore.metaPrefix, ht, Bool.true_or]

def NoMeta (idx : List Entry) : Prop := ∀ e ∈ idx, ¬ IsMeta e.path

/-- **No form of `add` ever stages a path inside the metadata directory**: if the staging area holds none
    before, it holds none after `add args` — for a file argument, a directory argument, `.`, the ignored
    path itself, in any spelling (the argument is cleaned first), for every work tree and `.goitignore`. -/
theorem addArgs_no_meta (H : HashFn) (w : WS) (args : List Bytes) (idx : List Entry) (hs : Canonical idx)
    (hn : NoMeta idx) (idx' : List Entry) (h : addArgs H w args idx = .ok idx') : NoMeta idx' := by
  intro e he hm
  refine hn e (((addArgs_spec H w args idx hs idx' h).2 e fun ⟨_, i, hi⟩ => ?_).1 he) hm
  rw [ignored_meta _ _ hm] at hi; cases hi

/-- an argument naming the metadata directory or anything inside it (in any spelling) is skipped -/
theorem add_skips_meta_arg (H : HashFn) (w : WS) (a : Bytes) (rest : List Bytes) (idx : List Entry)
    (hm : IsMeta (cleanPath a)) : addArgs H w (a :: rest) idx = addArgs H w rest idx := by
  simp only [addArgs, ignored_meta _ _ hm, if_true]

example : IsMeta (cleanPath (asc "./.goit/HEAD")) ∧ IsMeta (cleanPath (asc ".goit/")) ∧ IsMeta (cleanPath (asc ".//.goit//refs/heads/main/")) := by
  refine ⟨Or.inr ?_, Or.inl ?_, Or.inr ?_⟩ <;> decide +kernel

theorem status_never_lists_ignored (H : HashFn) (w : WS) (st : Status) (h : status H w = .ok st) (p : Bytes)
    (hp : p ∈ st.untracked) : ¬ IsMeta p ∧ ignored w p = false ∧ ∀ d ∈ dirPrefixes p, ignored w d = false := by
  obtain ⟨_, _, hig, hdirs⟩ := (C13.untracked_iff H w st h p).1 hp
  refine ⟨fun hm => ?_, hig, hdirs⟩
  rw [ignored_meta w p hm] at hig
  cases hig

/-- **`restore` never overwrites Goit's own files**: it rewrites tracked paths only, and no tracked path lies
    inside the metadata directory (`addArgs_no_meta`: `add` never stages one). -/
theorem restore_never_writes_meta (w : WS) (args : List Bytes) (r : List Entry) (h : restoreWork w args = .ok r)
    (hn : NoMeta w.index) : ∀ e ∈ r, ¬ IsMeta e.path :=
  fun e he => hn e (C09.restore_only_tracked w args r h e he)

/-- the same for `restore --staged`: entries come from the staging area or from HEAD's snapshot, so if neither
    holds a path inside the metadata directory, neither does the result -/
theorem restoreStaged_no_meta (snap : List Entry) (hs : C06.Canonical snap) (args : List Bytes) (idx : List Entry)
    (hi : C06.Canonical idx) (idx' : List Entry) (h : restoreStagedArgs snap args idx = (true, idx'))
    (hn : NoMeta idx) (hns : NoMeta snap) : NoMeta idx' := by
  obtain ⟨_, hat, hfr⟩ := C09.restoreStaged_exact snap hs args idx hi idx' h
  intro e he
  by_cases hnm : C09.Named args e.path
  · exact hns e ((hat e hnm).1 he)
  · exact hn e ((hfr e hnm).1 he)

end C17
