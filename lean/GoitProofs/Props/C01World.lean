import GoitProofs.Props.C04World

/-! C01 at the command line of the whole-repository model: `cat-file` prints what the store's reader returns, so the bytes `add`
    staged are the bytes `cat-file -p` prints. -/

namespace C01

/-- **`cat-file` on a 20-byte id prints the stored object**: `-t` its kind, `-p` (for a blob or commit) exactly its bytes followed
    by a line break — whenever Goit's object reader returns the object -/
theorem world_catfile_prints_stored (H : HashFn) (w : W.World) (id : Bytes) (k : Kind) (d : Bytes) (hlen : id.length = 20)
    (hg : Store.get H (W.store w) id = .ok (k, d)) (hk : k ≠ .tree) :
    W.catFileCmd H w true false [hashStr id] = .ok (some (k.str ++ [10])) ∧
    W.catFileCmd H w false true [hashStr id] = .ok (some (d ++ [10])) := by
  have hrh := readHash_hashStr id hlen
  have hkt : (k == Kind.tree) = false := by cases k <;> simp_all
  constructor
  · unfold W.catFileCmd
    simp [hrh, hg]
  · unfold W.catFileCmd
    simp [hrh, hg, hkt]

/-- the bytes `add <file>` staged are the bytes `cat-file -p <staged id>` prints afterwards, and `-t` prints `blob` -/
theorem world_add_then_catfile (H : HashFn) (w : W.World) (l : W.Loaded) (a data : Bytes)
    (hl : W.load H w = some l) (hj : W.J H w)
    (hw : ∀ f ∈ w.files, TreeBuild.PathOK f.1 ∧ (0 : UInt8) ∉ f.1 ∧ f.2.length ≤ Fmt.int64Max)
    (hfit : W.BlobsFit H w (w.files.map (·.2))) (hio : W.ignoreOK w = true)
    (hig : Cmds.ignored (W.ws w l []) (Cmds.cleanPath a) = false) (hfile : Cmds.fileAt (W.ws w l []) (Cmds.cleanPath a) = some data)
    (hnd : Cmds.isDirOnDisk (W.ws w l []) (Cmds.cleanPath a) = false) :
    W.catFileCmd H (W.addCmd H w l [a]).1 false true [hashStr (Obj.id H .blob data)] = .ok (some (data ++ [10])) ∧
    W.catFileCmd H (W.addCmd H w l [a]).1 true false [hashStr (Obj.id H .blob data)] = .ok (some (asc "blob" ++ [10])) := by
  obtain ⟨_, _, hget⟩ := C04.world_add_file_stored H w l a data hl hj hw hfit hio hig hfile hnd
  have hlen : (Obj.id H .blob data).length = 20 := H.len20 _
  obtain ⟨h1, h2⟩ := world_catfile_prints_stored H _ _ .blob data hlen hget (by decide)
  exact ⟨h2, h1⟩

end C01
