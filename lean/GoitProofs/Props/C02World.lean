import GoitProofs.Props.C03Inputs
import GoitProofs.Props.C02Spec

/-! C02, and its corollary for C05, end to end on `W.run`: `run_commit_ok` takes a successful `commit` apart; the invariants
    (`W.Fsck`) and the input conditions of the step do the rest. -/

namespace W

/-- `snap`: HEAD's snapshot as read; `(id, data)`: the commit object the command model made -/
theorem run_commit_ok (H : HashFn) (w : World) (msg : Bytes) (tz : Int) (ts : List Int) (o : Option Bytes)
    (h : (run H w ⟨.commit msg, tz, ts⟩).2 = .ok o) :
    ∃ l snap id data, load H w = some l ∧ commitSnap H w l = .ok snap ∧
      Cmds.commitCmd H (commitIn w l snap msg tz (clock ts 0)) = .ok (id, data) ∧
      commitObject H w ⟨.commit msg, tz, ts⟩ = some (id, data) ∧
      run H w ⟨.commit msg, tz, ts⟩ = commitWrite H w l id data msg tz ts := by
  rcases run_cases H w ⟨.commit msg, tz, ts⟩ with e | e | ⟨_, hc, _⟩ | ⟨l, _, _, hl, e⟩
  · rw [e] at h; cases h
  · rw [e] at h; cases h
  · cases hc
  · rw [e] at h ⊢
    change (commitCmd H w l msg tz ts).2 = .ok o at h
    rcases commitCmd_cases H w l msg tz ts with
      ⟨_, e'⟩ | ⟨_, e'⟩ | ⟨snap, hs, ⟨_, _, e'⟩ | ⟨_, _, e'⟩ | ⟨id, data, hcc, e'⟩⟩
    · rw [e'] at h; cases h
    · rw [e'] at h; cases h
    · rw [e'] at h; cases h
    · rw [e'] at h; cases h
    · exact ⟨l, snap, id, data, hl, hs, hcc, commitObject_of_commitCmd H w l hl msg tz ts snap _ hs hcc, e'⟩

end W

namespace C02

open TreeBuild

/-- **A successful `commit`, end to end, on the whole-repository model** — in any state meeting the invariants (`W.Fsck`, which
    every history from the empty directory reaches: `C03.world_fsck`), under the input conditions of the step (`W.StepIn`):
    the branch HEAD names now holds the id of a stored commit object that reads back, through the World's own store and readers,
    with **exactly the staged entries** as its snapshot, the commit the branch held before as its only parent (no parent when
    the branch had no file), the configured identity as author and committer at the clock's instant and offset, and the message;
    HEAD names that branch. (`C02.world_commit_frame`: staging area, working tree and configuration are untouched;
    `C02.world_commit_spec`: the reflog lines.) -/
theorem world_commit_end_to_end (H : HashFn) (w : W.World) (msg : Bytes) (tz : Int) (ts : List Int) (o : Option Bytes)
    (hf : W.Fsck H w) (hin : W.StepIn H w ⟨.commit msg, tz, ts⟩)
    (hout : (W.run H w ⟨.commit msg, tz, ts⟩).2 = .ok o) :
    ∃ (l : W.Loaded) (id : Bytes) (parent : Option Bytes) (a : Sign) (t : Bytes),
      W.load H w = some l ∧
      W.aget w.heads l.ref = parent.map hashStr ∧
      W.aget (W.run H w ⟨.commit msg, tz, ts⟩).1.heads l.ref = some (hashStr id) ∧
      (W.run H w ⟨.commit msg, tz, ts⟩).1.head = some (Head.render l.ref) ∧
      W.commitAt H (W.run H w ⟨.commit msg, tz, ts⟩).1 id = some ⟨some t, parent.toList, some a, some a, msg⟩ ∧
      W.treeEntries H (W.run H w ⟨.commit msg, tz, ts⟩).1 t = some l.idx := by
  obtain ⟨l, snap, id, data, hl, _, hcc, hco, hrun⟩ := W.run_commit_ok H w msg tz ts o hout
  obtain ⟨hnc, hrest⟩ := hin
  obtain ⟨hsm, hfit, hfuel, hdom⟩ := hrest l hl
  obtain ⟨parent, loc, glob, hbr, _, _, _, hparse⟩ := W.commit_parses H w l snap msg tz _ id data hf.1 hcc hdom
  obtain ⟨_, _, _, _, _, _, hid, _, _, _⟩ := C02.commitCmd_ok H _ id data hcc
  rw [hrun] at hout ⊢
  obtain ⟨_, hheads, hhead, _⟩ := C02.world_commit_spec H w l id data msg tz ts o hout
  have hobjs := W.commitWrite_objs H w l id data msg tz ts
  refine ⟨l, id, parent, ⟨Config.userField loc glob (asc "name"), Config.userField loc glob (asc "email"), W.clock ts 0, tz⟩,
    (writeTree H l.idx).id, hl, hbr, hheads, hhead, ?_, ?_⟩
  · rw [W.commitAt_of_aget H (W.commitStore H w l.idx id data) _ id (by rw [hobjs]),
      W.commitAt_putObj H _ id data hid (hnc id data l hco hl)]
    exact hparse
  · rw [W.treeEntries_of_objs H (W.commitStore H w l.idx id data) _ hobjs]
    exact W.treeEntries_commitStore H w l.idx id data (W.loaded_idx_goodE H w l hl hf.2.1.1) hsm hfit hfuel

end C02

namespace C05

/-- **Snapshot read-back, end to end** (whole-repository model): after a successful `commit` — in a state every history reaches,
    under the step's input conditions — what `Index.Reset` reads for the new commit's id (the entries `reset --mixed` / `--hard`
    install, what `restore --staged` and `status` compare with) is exactly the staging area the commit was made from. -/
theorem world_commit_then_reset_reads_staged (H : HashFn) (w : W.World) (msg : Bytes) (tz : Int) (ts : List Int) (o : Option Bytes)
    (hf : W.Fsck H w) (hin : W.StepIn H w ⟨.commit msg, tz, ts⟩)
    (hout : (W.run H w ⟨.commit msg, tz, ts⟩).2 = .ok o) :
    ∃ l id, W.load H w = some l ∧
      W.aget (W.run H w ⟨.commit msg, tz, ts⟩).1.heads l.ref = some (hashStr id) ∧
      Cmds.resetEntries H (W.store (W.run H w ⟨.commit msg, tz, ts⟩).1) W.treeDepth id = .ok l.idx := by
  obtain ⟨l, id, parent, a, t, hl, _, hheads, _, hc, hte⟩ := C02.world_commit_end_to_end H w msg tz ts o hf hin hout
  exact ⟨l, id, hl, hheads, (W.resetEntries_ok_iff H _ id l.idx).2 ⟨_, t, hc, rfl, hte⟩⟩

end C05
