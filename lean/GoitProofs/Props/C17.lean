import GoitModel.Config
import GoitProofs.Lemmas.Bytes

/-! # C17 — Goit's own directory and ignored paths never enter the staging area (matching rules) -/

namespace C17

open Ignore

def lits (l : Bytes) : List Tok := l.map Tok.lit

theorem matchHere_lits (l rest : Bytes) (ts : List Tok) : matchHere (lits l ++ ts) (l ++ rest) = matchHere ts rest := by
  induction l with
  | nil => simp [lits]
  | cons a as ih =>
    simp only [lits, List.map_cons, List.cons_append] at ih ⊢
    rw [matchHere]
    simp [ih]

theorem search_of_suffix (pat : List Tok) (pre s : Bytes) (h : matchHere pat s = true) : search pat (pre ++ s) = true := by
  induction pre with
  | nil =>
    cases s with
    | nil => simpa [search] using h
    | cons a as => simp [search, h]
  | cons b bs ih =>
    simp only [List.cons_append, search, ih, Bool.or_true]

theorem star_nil (s : Bytes) : matchHere [.star] s = true := by
  cases s <;> simp [matchHere]

theorem matches_of_suffix (l : Bytes) (other : List Bytes) (pre s : Bytes) (h : matchHere (compile l) s = true) :
    matchesTarget (l :: other) (pre ++ s) = true := by
  simp [matchesTarget, search_of_suffix _ pre _ h]

/-- **A `name/` entry excludes everything beneath that directory**, wherever the directory sits in the
    path, whatever characters the name contains (the text is matched literally). -/
theorem matches_dir (name pre rest : Bytes) (other : List Bytes) :
    matchesTarget ((name ++ [47]) :: other) (pre ++ (name ++ [47]) ++ rest) = true := by
  have hc : compile (name ++ [47]) = lits (name ++ [47]) ++ [.star] := by simp [compile, lits]
  rw [List.append_assoc]
  refine matches_of_suffix _ other pre _ ?_
  rw [hc, matchHere_lits]; exact star_nil rest

theorem star_consume (stem : Bytes) (ts : List Tok) (s : Bytes) (hs : (10 : UInt8) ∉ stem)
    (h : matchHere ts s = true) : matchHere (.star :: ts) (stem ++ s) = true := by
  induction stem with
  | nil =>
    cases s with
    | nil => simpa [matchHere] using h
    | cons a as => simp [matchHere, h]
  | cons b bs ih =>
    have hb : b ≠ 10 := fun e => hs (by simp [e])
    have := ih (fun m => hs (List.mem_cons_of_mem _ m))
    simp only [List.cons_append]
    rw [matchHere]
    simp [hb, this]

theorem matchHere_lits_nil (l : Bytes) : matchHere (lits l) l = true := by
  have := matchHere_lits l [] []
  simp only [List.append_nil] at this
  rw [this]; simp [matchHere]

/-- **A `*.ext` entry excludes files with that extension** (in any directory). -/
theorem matches_ext (ext stem : Bytes) (other : List Bytes) (hext : (47 : UInt8) ∉ ext ∧ (42 : UInt8) ∉ ext)
    (hstem : (10 : UInt8) ∉ stem) :
    matchesTarget ((42 :: 46 :: ext) :: other) (stem ++ 46 :: ext) = true := by
  have hmap : ext.map (fun c => if c = 42 then Tok.star else Tok.lit c) = lits ext :=
    List.map_congr_left fun c hc => if_neg fun (e : c = 42) => hext.2 (e ▸ hc)
  have hc : compile (42 :: 46 :: ext) = .star :: lits (46 :: ext) := by simp [compile, hext.1, lits, hmap]
  refine matches_of_suffix _ other [] _ ?_
  rw [hc]
  exact star_consume stem _ _ hstem (matchHere_lits_nil (46 :: ext))

/-- **With no `.goitignore`, no path outside the metadata directory is ever hidden**: only paths that
    start with `.goit/` match (the pinned, unanchored pattern also hid `my.goit/file`). -/
theorem nothing_hidden_without_ignore (t : Bytes) : matchesTarget [] t = Bytes.hasPrefix t (asc ".goit/") := by
  simp [matchesTarget, isMeta, metaPrefix]

/-- Goit's own directory is always excluded, whatever `.goitignore` says -/
theorem meta_always (lines : List Bytes) (rest : Bytes) : matchesTarget lines (asc ".goit/" ++ rest) = true := by
  simp [matchesTarget, isMeta, metaPrefix, Bytes.hasPrefix_append_self]

example : matchesTarget [] (asc "my.goit/file") = false ∧ matchesTarget [asc "x+y/"] (asc "x+y/f") = true ∧
    matchesTarget [asc "x+y/"] (asc "xxy/f") = false ∧ matchesTarget [asc "*.log"] (asc "d/f.log") = true := by decide +kernel

end C17
