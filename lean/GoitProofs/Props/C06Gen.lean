import GoitModel.World
import GoitProofs.Props.C17Cmd

/-! The loops of `add`, `rm` and `restore --staged` keep the staging area canonical and keep **any** predicate of
    single entries that holds of the entries they put in. -/

namespace W

open C04 C06

variable {P : Entry → Prop}

-- canonical, and `P` of every entry: the shape of every per-entry invariant of the staging area (C06, C17, the content side of C03)
structure GoodP (P : Entry → Prop) (es : List Entry) : Prop where
  canon : Canonical es
  all : ∀ e ∈ es, P e

theorem goodp_nil : GoodP P [] := ⟨by simp [Canonical, SortedKeys, IndexOps.paths], fun e he => by cases he⟩

/-- a staging area mixed from a good one and from a source whose entries are good is good: every rule below is this -/
theorem goodp_mix {S : Bytes → Prop} {src es es' : List Entry} (hg : GoodP P es) (hs : ∀ e ∈ src, P e) (h : Mix S src es es') :
    GoodP P es' :=
  ⟨h.1, fun e he => Classical.byCases (fun hS : S e.path => hs e ((h.2.1 e hS).1 he)) fun hS => hg.all e ((h.2.2 e hS).1 he)⟩

/-- `Index.Update` as `add` and `restore --staged` call it (the changed-flag dropped) -/
theorem goodp_update (es : List Entry) (hg : GoodP P es) (id p : Bytes) (hp : P ⟨id, p⟩) (es' : List Entry)
    (h : (IndexOps.update es id p).map (·.2) = .ok es') : GoodP P es' := by
  obtain ⟨_, _, hu, hm⟩ := update_spec es hg.canon id p
  rw [hu] at h; cases h
  exact goodp_mix hg (fun e he => List.mem_singleton.1 he ▸ hp) hm

theorem goodp_delete (es : List Entry) (hg : GoodP P es) (p : Bytes) (es' : List Entry) (h : IndexOps.delete es p = .ok es') : GoodP P es' :=
  goodp_mix hg (fun _ he => by cases he) (delete_spec es hg.canon p es' h)

theorem goodp_sublist {es es' : List Entry} (hg : GoodP P es) (h : es'.Sublist es) : GoodP P es' :=
  ⟨sublist_canonical h hg.canon, fun e he => hg.all e (h.subset he)⟩

theorem mem_of_find?_map {α β : Type} {l : List α} {q : α → Bool} {f : α → β} {v : β} (h : (l.find? q).map f = some v) :
    ∃ x ∈ l, q x = true ∧ f x = v :=
  let ⟨x, hx, hv⟩ := Option.map_eq_some_iff.1 h
  ⟨x, List.mem_of_find?_eq_some hx, List.find?_some hx, hv⟩

theorem fileAt_mem (w : Cmds.WS) (p d : Bytes) (h : Cmds.fileAt w p = some d) : (p, d) ∈ w.files := by
  obtain ⟨f, hm, hq, rfl⟩ := mem_of_find?_map h
  rw [← beq_iff_eq.1 hq]; exact hm

theorem goodp_weaken {P P' : Entry → Prop} (h : ∀ e, P e → P' e) {es : List Entry} (hg : GoodP P es) : GoodP P' es :=
  ⟨hg.canon, fun e he => h e (hg.all e he)⟩

/-- `M`: a relation between the staging area and the blobs handed over so far; holds of partial results too.
    `∃ ix` in `hadd`: `ignored` is asked against the staging area of the moment, and which one it was does not matter to
    what is drawn from the answer (`C17.ignored_meta`) -/
theorem addArgsP_rule (H : HashFn) (w : Cmds.WS) (M : List Entry → List Bytes → Prop)
    (hdel : ∀ idx bs p i, M idx bs → IndexOps.delete idx p = .ok i → M i bs)
    (hadd : ∀ idx bs p d i, M idx bs → (∃ ix, ¬ Cmds.ignored { w with index := ix } p = true) → (p, d) ∈ w.files →
      Cmds.addOne H idx p d = .ok i → M i (bs ++ [d]))
    (args : List Bytes) (idx : List Entry) (bs : List Bytes) (h : M idx bs) :
    M (addArgsP H w args idx bs).idx (addArgsP H w args idx bs).blobs := by
  -- once the fold over a directory's files has failed it stays failed
  have stuck : ∀ (fs : List (Bytes × Bytes)) (r : Res (List Entry)), (∀ i, r ≠ .ok i) →
      fs.foldl (fun (acc : Res (List Entry)) f => acc.bind fun i => Cmds.addOne H i f.1 f.2) r = r := by
    intro fs
    induction fs with
    | nil => intro r _; rfl
    | cons f fs ih => intro r hr; cases r <;> first | exact absurd rfl (hr _) | exact ih _ (fun _ h => by cases h)
  have fold : ∀ (fs : List (Bytes × Bytes)) idx bs i, M idx bs →
      (∀ f ∈ fs, (∃ ix, ¬ Cmds.ignored { w with index := ix } f.1 = true) ∧ f ∈ w.files) →
      fs.foldl (fun (acc : Res (List Entry)) f => acc.bind fun i => Cmds.addOne H i f.1 f.2) (Res.ok idx) = .ok i →
      M i (bs ++ fs.map (·.2)) := by
    intro fs
    induction fs with
    | nil => intro idx bs i h _ he; cases he; simpa using h
    | cons f fs ih =>
      intro idx bs i h hfs he
      rw [List.foldl_cons, show (Res.ok idx : Res (List Entry)).bind (fun i => Cmds.addOne H i f.1 f.2) = Cmds.addOne H idx f.1 f.2 from rfl] at he
      cases ho : Cmds.addOne H idx f.1 f.2 with
      | ok e1 =>
        rw [ho] at he
        simpa using ih e1 (bs ++ [f.2]) i (hadd idx bs f.1 f.2 e1 h (hfs f List.mem_cons_self).1 (hfs f List.mem_cons_self).2 ho)
          (fun g hg => hfs g (List.mem_cons_of_mem _ hg)) he
      | err | crash => rw [ho, stuck fs _ (fun _ h => by cases h)] at he; cases he
  -- case2: an ignored argument, skipped; case3: a path gone from disk, its entry deleted; case6: a directory, its files
  -- folded in; case9: a file, staged; the others: the loop stops there with what it has
  fun_induction addArgsP H w args idx bs with
  | case1 => exact h
  | case2 a rest idx bs p hign ih => exact ih h
  | case3 a rest idx bs p hign hgone idx' hd ih => exact ih (hdel _ _ _ _ h hd)
  | case6 a rest idx bs p hign hthere hdir fs idx' hf ih =>
    refine ih (fold _ idx bs _ h (fun f hfm => ?_) hf)
    obtain ⟨hm, hni⟩ := List.mem_filter.mp hfm
    exact ⟨⟨idx, by simpa using hni⟩, (List.mem_filter.mp hm).1⟩
  | case9 a rest idx bs p hign hthere hfile' data hfile idx' ho ih => exact ih (hadd _ _ _ _ _ h ⟨idx, hign⟩ (fileAt_mem w _ _ hfile) ho)
  | _ => exact h

/-- `Q`: what holds of the old entries -/
theorem addArgsP_spec (H : HashFn) (Q : Entry → Prop) (w : Cmds.WS) (args : List Bytes) (idx : List Entry) (hg : GoodP Q idx) :
    GoodP (fun e => Q e ∨ ∃ d ∈ (addArgsP H w args idx []).blobs, e.id = Obj.id H .blob d ∧ (e.path, d) ∈ w.files ∧
        ∃ ix, ¬ Cmds.ignored { w with index := ix } e.path = true) (addArgsP H w args idx []).idx ∧
    ∀ d ∈ (addArgsP H w args idx []).blobs, ∃ p, (p, d) ∈ w.files := by
  refine addArgsP_rule H w (fun idx bs => GoodP (fun e => Q e ∨ ∃ d ∈ bs, e.id = Obj.id H .blob d ∧ (e.path, d) ∈ w.files ∧
        ∃ ix, ¬ Cmds.ignored { w with index := ix } e.path = true) idx ∧ ∀ d ∈ bs, ∃ p, (p, d) ∈ w.files) ?_ ?_ args idx []
      ⟨⟨hg.canon, fun e he => .inl (hg.all e he)⟩, fun d hd => by cases hd⟩
  · exact fun idx bs p i h hd => ⟨goodp_delete idx h.1 p i hd, h.2⟩
  · intro idx bs p d i h hni hm ho
    refine ⟨goodp_update idx ⟨h.1.canon, fun e he => ?_⟩ _ p (.inr ⟨d, by simp, rfl, hm, hni⟩) i ho,
      List.forall_mem_append.2 ⟨h.2, List.forall_mem_singleton.2 ⟨p, hm⟩⟩⟩
    exact (h.1.all e he).imp_right fun ⟨x, hx, r⟩ => ⟨x, List.mem_append_left _ hx, r⟩

/-- also when it stops at an argument -/
theorem rmArgsP_sublist (args : List Bytes) (idx : List Entry) (removed : List Bytes) :
    (rmArgsP args idx removed).2.1.Sublist idx := by
  -- no argument left; an argument that names nothing tracked (the loop stops); a tracked path or directory (goes on)
  fun_induction rmArgsP args idx removed with
  | case1 => exact List.Sublist.refl _
  | case2 => exact List.filter_sublist
  | case3 a rest idx removed p wasDir beneath idx1 reg h idx2 ih =>
    refine ih.trans ?_
    show (if reg = true then _ else idx1).Sublist idx
    split
    · exact List.filter_sublist.trans List.filter_sublist
    · exact List.filter_sublist

theorem snapId_entry (snap : List Entry) (p id : Bytes) (h : Cmds.snapId snap p = some id) : (⟨id, p⟩ : Entry) ∈ snap := by
  obtain ⟨e, hm, hq, rfl⟩ := mem_of_find?_map h
  rw [← beq_iff_eq.1 hq]; exact hm

theorem goodp_restoreIndexOne (idx snap : List Entry) (hg : GoodP P idx) (hs : ∀ e ∈ snap, P e) (p : Bytes) (idx' : List Entry)
    (h : Cmds.restoreIndexOne idx snap p = .ok idx') : GoodP P idx' := by
  unfold Cmds.restoreIndexOne at h
  split at h
  · rename_i id hsi
    exact goodp_update idx hg id p (hs _ (snapId_entry snap p id hsi)) idx' h
  · split at h
    · exact goodp_delete idx hg p idx' h
    · cases h

theorem goodp_rsFold (snap : List Entry) (hs : ∀ e ∈ snap, P e) (ps : List Bytes) (idx : List Entry) (hg : GoodP P idx) :
    GoodP P (Cmds.rsFold snap ps idx).2 := by
  fun_induction Cmds.rsFold snap ps idx with
  | case2 p ps idx i hr ih => exact ih (goodp_restoreIndexOne idx snap hg hs p i hr)
  | _ => exact hg

theorem goodp_restoreStagedArgs (snap : List Entry) (hs : ∀ e ∈ snap, P e) (args : List Bytes) (idx : List Entry) (hg : GoodP P idx) :
    GoodP P (Cmds.restoreStagedArgs snap args idx).2 := by
  have fold : ∀ ps idx b idx1, GoodP P idx → Cmds.rsFold snap ps idx = (b, idx1) → GoodP P idx1 :=
    fun ps idx b idx1 hg h => by have := goodp_rsFold snap hs ps idx hg; rwa [h] at this
  -- case3: after the fold over a directory argument's paths the argument itself is restored; case6: a directory argument
  -- only; the others: the loop stops after the fold
  fun_induction Cmds.restoreStagedArgs snap args idx with
  | case1 => exact hg
  | case3 => rename_i ih; exact ih (goodp_restoreIndexOne _ snap (fold _ _ _ _ hg ‹_›) hs _ _ ‹_›)
  | case6 => rename_i ih; exact ih (fold _ _ _ _ hg ‹_›)
  | _ => exact fold _ _ _ _ hg ‹_›

end W
