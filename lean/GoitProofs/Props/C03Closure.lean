import GoitProofs.Props.C06Full

/-! C03, the content side (`closure`), as an invariant of every history (`K`: staged ids and snapshot entries name stored blobs,
    parents of stored commits are stored commits, every stored commit has a tree line). As in `C06Full` the hypotheses are
    about the inputs of each step only (`StepOK`, `StepOK3`), and the step is read off `IOStep`: a new commit's tree is the
    staging area, whose entries already name stored blobs. -/

namespace W

open TreeBuild

/-- `id` names a stored blob (content = the encoding of a blob whose hash is `id`) -/
def BlobAt (H : HashFn) (w : World) (id : Bytes) : Prop :=
  ∃ d, aget w.objs id = some (Obj.encode .blob d) ∧ d.length ≤ Fmt.int64Max ∧ id = Obj.id H .blob d

theorem blobAt_mono {H : HashFn} {w w' : World} (ho : OL w.objs w'.objs) {id : Bytes} (h : BlobAt H w id) : BlobAt H w' id :=
  let ⟨d, h1, h2, h3⟩ := h
  ⟨d, ho id _ h1, h2, h3⟩

theorem blobAt_get (H : HashFn) (w : World) (id : Bytes) (h : BlobAt H w id) : ∃ d, Store.get H (store w) id = .ok (.blob, d) :=
  let ⟨d, h1, h2, h3⟩ := h
  ⟨d, h3 ▸ get_stored H w .blob d (by decide) h2 (h3 ▸ h1)⟩

def AllBlobs (H : HashFn) (w : World) (es : List Entry) : Prop := ∀ e ∈ es, BlobAt H w e.id

theorem allBlobs_mono {H : HashFn} {w w' : World} (ho : OL w.objs w'.objs) {es : List Entry} (h : AllBlobs H w es) : AllBlobs H w' es :=
  fun e he => blobAt_mono ho (h e he)

/-- `hasTree` is what makes HEAD's snapshot always read (`headSnap_total`) -/
structure K (H : HashFn) (w : World) : Prop where
  index : ∀ es, w.index = some es → AllBlobs H w es
  snaps : ∀ id c t es, commitAt H w id = some c → c.tree = some t → treeEntries H w t = some es → AllBlobs H w es
  parents : ∀ id c, commitAt H w id = some c → ∀ p ∈ c.parents, (commitAt H w p).isSome = true
  hasTree : ∀ id c, commitAt H w id = some c → c.tree.isSome = true

theorem K_grow (H : HashFn) (w w' : World) (hs : SnapsGood H w) (ho : OL w.objs w'.objs) (New : Commit → Prop)
    (hnc : ∀ id c, commitAt H w' id = some c → commitAt H w id = some c ∨ New c)
    (hnew : ∀ c, New c → (∃ t, c.tree = some t ∧ ∀ es, treeEntries H w' t = some es → AllBlobs H w' es) ∧
      ∀ p ∈ c.parents, (commitAt H w' p).isSome = true)
    (hidx : ∀ es, w'.index = some es → AllBlobs H w' es) (hk : K H w) : K H w' := by
  refine ⟨hidx, fun id c t es hc ht hte => ?_, fun id c hc p hp => ?_, fun id c hc => ?_⟩ <;> rcases hnc id c hc with hc0 | hn
  · obtain ⟨es0, he0, _⟩ := hs id c t hc0 ht
    cases (treeEntries_mono H w w' ho t es0 he0).symm.trans hte
    exact allBlobs_mono ho (hk.snaps id c t _ hc0 ht he0)
  · obtain ⟨⟨t', ht', h⟩, _⟩ := hnew c hn
    cases ht.symm.trans ht'
    exact h es hte
  · exact commitAt_mono H w w' ho p (hk.parents id c hc0 p hp)
  · exact (hnew c hn).2 p hp
  · exact hk.hasTree id c hc0
  · obtain ⟨⟨t, ht, _⟩, _⟩ := hnew c hn
    rw [ht]; rfl

def BlobsFit (H : HashFn) (w : World) (ds : List Bytes) : Prop :=
  (∀ d ∈ ds, ∀ c, aget w.objs (Obj.id H .blob d) = some c → c = Obj.encode .blob d) ∧
  (∀ d ∈ ds, ∀ d' ∈ ds, Obj.id H .blob d = Obj.id H .blob d' → d = d')

theorem blobsFit_sub (H : HashFn) (w : World) (ds ds' : List Bytes) (hsub : ∀ d ∈ ds', d ∈ ds) (h : BlobsFit H w ds) : BlobsFit H w ds' :=
  ⟨fun d hd => h.1 d (hsub d hd), fun d hd d' hd' => h.2 d (hsub d hd) d' (hsub d' hd')⟩

theorem putBlobs_holds (H : HashFn) (w : World) (ds : List Bytes) (hfit : BlobsFit H w ds) :
    ∀ d ∈ ds, aget (ds.foldl (putBlob H) w).objs (Obj.id H .blob d) = some (Obj.encode .blob d) := by
  intro d hd
  rw [putBlobs_eq]
  refine putObjs_holds w _ ⟨?_, ?_⟩ _ (List.mem_map.mpr ⟨d, hd, rfl⟩)
  · intro p hp c0 hc0
    obtain ⟨x, hx, rfl⟩ := List.mem_map.mp hp
    exact hfit.1 x hx c0 hc0
  · intro p hp q hq e
    obtain ⟨x, hx, rfl⟩ := List.mem_map.mp hp
    obtain ⟨y, hy, rfl⟩ := List.mem_map.mp hq
    rw [hfit.2 x hx y hy e]

theorem loaded_idx_blobs (H : HashFn) (w : World) (l : Loaded) (hl : load H w = some l) (hk : K H w) : AllBlobs H w l.idx := by
  rw [loaded_idx_eq H w l hl]
  cases hi : w.index with
  | none => intro e he; cases he
  | some es => exact hk.index es hi

theorem addArgsP_allBlobs (H) (w l args) (hl : load H w = some l) (hj : J H w) (hk : K H w)
    (hw : ∀ f ∈ w.files, PathOK f.1 ∧ (0 : UInt8) ∉ f.1 ∧ f.2.length ≤ Fmt.int64Max)
    (hfit : BlobsFit H w (w.files.map (·.2))) :
    GoodP (fun e => BlobAt H ((addArgsP H (ws w l []) args l.idx []).blobs.foldl (putBlob H) w) e.id)
      (addArgsP H (ws w l []) args l.idx []).idx := by
  obtain ⟨htr, hblobs⟩ := addArgsP_spec H (fun e => BlobAt H w e.id) (ws w l []) args l.idx
    ⟨(loaded_idx_goodE H w l hl hj.1).canon, loaded_idx_blobs H w l hl hk⟩
  have hsz : ∀ d ∈ (addArgsP H (ws w l []) args l.idx []).blobs, d.length ≤ Fmt.int64Max := by
    intro d hd; obtain ⟨p, hp⟩ := hblobs d hd; exact (hw (p, d) hp).2.2
  have hfit' : BlobsFit H w (addArgsP H (ws w l []) args l.idx []).blobs :=
    blobsFit_sub H w _ _ (fun d hd => by obtain ⟨p, hp⟩ := hblobs d hd; exact List.mem_map.mpr ⟨(p, d), hp, rfl⟩) hfit
  refine ⟨htr.canon, fun e he => ?_⟩
  rcases htr.all e he with h1 | ⟨d, hd, hid, _⟩
  · exact blobAt_mono (putBlobs_le H w _) h1
  · rw [hid]; exact ⟨d, putBlobs_holds H w _ hfit' d hd, hsz d hd, rfl⟩

/-- what `K` needs beyond `StepOK`: `.add` asks of every work file's content, for the reason given at `StepOK`;
    `.commit`: the parents the new commit object parses to are stored commits -/
def StepOK3 (H : HashFn) (w : World) (i : Inv) : Prop :=
  match i.cmd with
  | .add _ => BlobsFit H w (w.files.map (·.2))
  | .commit _ => ∀ l id data, load H w = some l → commitObject H w i = some (id, data) →
      ∀ c, Commit.parse data = some c → ∀ p ∈ c.parents, (commitAt H w p).isSome = true
  | _ => True

theorem StepOK3.add {H : HashFn} {w : World} {i : Inv} (h : StepOK3 H w i) {args : List Bytes} (hc : i.cmd = .add args) :
    BlobsFit H w (w.files.map (·.2)) := by
  unfold StepOK3 at h; rw [hc] at h; exact h

theorem StepOK3.commit {H : HashFn} {w : World} {i : Inv} (h : StepOK3 H w i) {l : Loaded} (hl : load H w = some l) {id data : Bytes}
    (hco : commitObject H w i = some (id, data)) :
    ∀ c, Commit.parse data = some c → ∀ p ∈ c.parents, (commitAt H w p).isSome = true := by
  obtain ⟨m, hc⟩ := isCommit_of_commitObject hco
  unfold StepOK3 at h; rw [hc] at h
  exact h l id data hl hco

theorem Reads.weaken {H : HashFn} {w : World} {P Q : Entry → Prop} (h : Reads H w P) (hPQ : ∀ e, P e → Q e) : Reads H w Q :=
  ⟨fun t es hr => goodp_weaken hPQ (h.1 t es hr), fun l es hl hs e he => hPQ e (h.2 l es hl hs e he)⟩

theorem run_K (H : HashFn) (w : World) (i : Inv) (hj : J H w) (hk : K H w) (hok : StepOK H w i) (hok3 : StepOK3 H w i) :
    K H (run H w i).1 := by
  have hio := run_io H w i
  have ho := (run_writes H w i).objs
  have hnc := hio.onlyNewCommit hok hj.1
  have up : ∀ e : Entry, BlobAt H w e.id → BlobAt H (run H w i).1 e.id := fun _ => blobAt_mono ho
  refine K_grow H w _ hj.2 ho _ hnc (fun c hn => ?_) (fun es he => ?_) hk
  · -- the new commit: its tree is the staging area, whose entries name stored blobs; its parents are what `StepOK3` asks
    obtain ⟨l, hl, htl, hte⟩ := hn.tree hok hj.1
    obtain ⟨l', id, data, hl', hco, hp, _⟩ := hn
    refine ⟨⟨_, htl, fun es hes => ?_⟩, fun p hpm => commitAt_mono H _ _ ho p (hok3.commit hl' hco c hp p hpm)⟩
    rw [hte] at hes; cases hes
    exact allBlobs_mono ho (loaded_idx_blobs H w l hl hk)
  · -- the staging area: old entries, entries read from stored commits, or what `add` staged after storing its blobs
    refine (hio.index_goodp (fun e => BlobAt H (run H w i).1 e.id) (fun es h => ⟨(hj.1 es h).canon, allBlobs_mono ho (hk.index es h)⟩)
      (fun _ => Reads.weaken (reads_of_snaps fun id c t es hc ht hte =>
        ⟨(snapsGood_at hj.2 hc ht hte).canon, hk.snaps id c t es hc ht hte⟩) up) (fun l args hl hc hobjs => ?_) es he).all
    exact goodp_weaken (fun e => blobAt_mono (ObjsLe.of_eq hobjs)) (addArgsP_allBlobs H w l args hl hj hk (hok.add hc) (hok3.add hc))

/-- the commit has a tree line (`K.hasTree`) and the tree reads back whole (`SnapsGood`) -/
theorem headSnap_total (H : HashFn) (w : World) (l : Loaded) (hl : load H w = some l) (hj : J H w) (hk : K H w) (id : Bytes) (c : Commit)
    (hh : l.headCommit = some (id, c)) : ∃ es, headSnap H w l = .ok es ∧ GoodE es := by
  have hca := (load_headCommit H w l hl id c hh).1
  obtain ⟨t, ht⟩ := Option.isSome_iff_exists.1 (hk.hasTree id c hca)
  obtain ⟨es, hes, hg⟩ := hj.2 id c t hca ht
  exact ⟨es, (headSnap_ok_iff H w l es).2 ⟨id, c, t, hh, ht, hes⟩, hg⟩

def StepsOK3 (H : HashFn) : World → List Step → Prop
  | _, [] => True
  | w, .cmd i :: r => StepOK3 H w i ∧ StepsOK3 H (run H w i).1 r
  | w, .edit f d :: r => StepsOK3 H { w with files := f, dirs := d } r

theorem edit_K (H) (w : World) (f d) (hk : K H w) : K H { w with files := f, dirs := d } :=
  ⟨hk.index, hk.snaps, hk.parents, hk.hasTree⟩

theorem runSteps_JK (H : HashFn) (w : World) (ss : List Step) (hj : J H w) (hk : K H w) (hok : StepsOK H w ss) (hok3 : StepsOK3 H w ss) :
    J H (runSteps H w ss) ∧ K H (runSteps H w ss) :=
  runSteps_inv H (fun w => J H w ∧ K H w) (fun w ss => StepsOK H w ss ∧ StepsOK3 H w ss)
    (fun w i _ h hh => ⟨⟨run_J H w i h.1 hh.1.1, run_K H w i h.1 h.2 hh.1.1 hh.2.1⟩, hh.1.2, hh.2.2⟩)
    (fun w f d _ h hh => ⟨⟨edit_J H w f d h.1, edit_K H w f d h.2⟩, hh⟩) ss w ⟨hj, hk⟩ ⟨hok, hok3⟩

theorem K_empty (H : HashFn) : K H {} := by
  have hnone : ∀ id c, commitAt H ({} : World) id ≠ some c := fun id c h => by rw [commitAt_empty] at h; cases h
  exact ⟨fun es h => (nomatch h), fun id c t es h => (hnone id c h).elim, fun id c h => (hnone id c h).elim,
    fun id c h => (hnone id c h).elim⟩

end W

namespace C03

/-- **Closure, for every history of the whole-repository model** (clause `closure`): starting from an empty directory, after
    any sequence of invocations — successful, refused, failing half-way — interleaved with arbitrary edits of the working tree:
    every staged path refers to a stored blob; every stored commit's snapshot, when it reads back, refers to stored blobs only
    (and it does read back whole: `C06.world_commits_read_back_canonical`); every parent of a stored commit is a stored commit.
    Input conditions: those of `C06.world_index_canonical` (`StepsOK`) and `StepsOK3` — the blobs `add` may store do not
    collide with stored objects of other content or with each other, and the `parent` lines of a new commit object read back
    as HEAD's commit (what `C12.commit_parse_format` proves in C12's domain). -/
theorem world_closed (H : HashFn) (ss : List W.Step) (hok : W.StepsOK H {} ss) (hok3 : W.StepsOK3 H {} ss) :
    W.K H (W.runSteps H {} ss) :=
  (W.runSteps_JK H {} ss (W.J_empty H) (W.K_empty H) hok hok3).2

/-- a staged id is a blob Goit's own object reader returns -/
theorem world_staged_blobs_readable (H : HashFn) (ss : List W.Step) (hok : W.StepsOK H {} ss) (hok3 : W.StepsOK3 H {} ss)
    (es : List Entry) (h : (W.runSteps H {} ss).index = some es) (e : Entry) (he : e ∈ es) :
    ∃ d, Store.get H (W.store (W.runSteps H {} ss)) e.id = .ok (.blob, d) :=
  W.blobAt_get H _ e.id ((world_closed H ss hok hok3).index es h e he)

/-- one step, from any state that meets the invariants -/
theorem world_step_closed (H : HashFn) (w : W.World) (i : W.Inv) (hj : W.J H w) (hk : W.K H w) (hok : W.StepOK H w i)
    (hok3 : W.StepOK3 H w i) : W.K H (W.run H w i).1 := W.run_K H w i hj hk hok hok3

end C03

/-- the further input conditions are satisfiable by a real history (init, create a file, stage it, look) -/
example (H : HashFn) : W.StepsOK3 H {}
    [.cmd ⟨.init, 0, []⟩, .edit [([97], [120])] [], .cmd ⟨.add [[97]], 0, []⟩, .cmd ⟨.status, 0, []⟩] := by
  refine ⟨trivial, ⟨?_, ?_⟩, trivial, trivial⟩
  · intro d hd c hc
    have hobjs : (W.run H {} ⟨.init, 0, []⟩).1.objs = [] := W.frame H {} ⟨.init, 0, []⟩ .objs (by decide)
    simp [hobjs, W.aget] at hc
  · intro d hd d' hd' _
    simp at hd hd'
    rw [hd, hd']
