import GoitModel.Commit
import GoitProofs.Lemmas.Bytes

/-! # C12 — Commit metadata survives a write/read round trip in every time zone -/

namespace C12

open Sign

/-- executable check of one offset: the zone is printed as sign + four digits and reads back as the
    same offset -/
def zoneOK (o : Int) : Bool :=
  match zone o with
  | [sg, a, b, c, d] =>
    (sg == 43 || sg == 45) && [a, b, c, d].all Dec.isDigit &&
      (match Fmt.sscanfZone sg [sg, a, b, c, d] with
       | some (h, m) => (if sg = 45 then -(3600 * h + 60 * m) else 3600 * h + 60 * m) == o
       | none => false)
  | _ => false

/-- the k-th quarter hour of the property's domain: −12:00 + k·15 min, k = 0 … 104 (= +14:00) -/
def quarter (k : Fin 105) : Int := ((k.val : Int) - 48) * 900

/-- **Every UTC offset from −12:00 to +14:00 in quarter-hour steps** (the whole finite table, checked
    by the kernel): the stored zone has the Git form `+HHMM` / `-HHMM` and reads back as the same offset. -/
theorem zone_table : ∀ k : Fin 105, zoneOK (quarter k) = true := by decide +kernel

/-- the pinned code printed `--500` for −05:00 and `--3-30` for −03:30; the repaired zone -/
example : zone (-18000) = asc "-0500" ∧ zone (-12600) = asc "-0330" ∧ zone 20700 = asc "+0545" := by decide +kernel

def isEmailChar (c : UInt8) : Bool := isAlnum c || c = 95 || c = 46 || c = 43 || c = 45 || c = 64

theorem label_chars (l : Bytes) (h : isLabel l = true) : ∀ c ∈ l, isEmailChar c = true := by
  cases l with
  | nil => simp [isLabel] at h
  | cons a as =>
    simp only [isLabel, Bool.and_eq_true, List.all_eq_true] at h
    intro c hc
    rcases List.mem_cons.mp hc with rfl | hc
    · simp [isEmailChar, h.1]
    · rcases Bool.or_eq_true_iff.1 (h.2 c hc) with h1 | h1 <;> simp [isEmailChar, h1]

theorem tld_chars (l : Bytes) (h : isTld l = true) : ∀ c ∈ l, isEmailChar c = true := by
  simp only [isTld, Bool.and_eq_true, List.all_eq_true] at h
  intro c hc
  simp [isEmailChar, isAlnum, h.2 c hc]

/-- every character of an accepted e-mail address is an address character (in particular not `>`, `<`, blank) -/
theorem email_chars (e : Bytes) (h : matchesEmail e = true) : ∀ c ∈ e, isEmailChar c = true := by
  unfold matchesEmail at h
  split at h
  · cases h
  rename_i loc dom hcut
  obtain ⟨rfl, -⟩ := (Bytes.cut1_eq_some_iff 64 e loc dom).1 hcut
  simp only [Bool.and_eq_true, List.all_eq_true, decide_eq_true_eq] at h
  obtain ⟨⟨-, hloc⟩, ⟨-, hlab⟩, htld⟩ := h
  intro c hcm
  rcases List.mem_append.mp hcm with h1 | h1
  · exact Bool.or_eq_true_iff.2 (Or.inl (hloc c h1))  -- `isEmailChar c` unfolds to `isLocalChar c || c = 64`
  rcases List.mem_cons.mp h1 with rfl | h2
  · decide
  rcases Bytes.mem_split1 46 dom c h2 with rfl | ⟨p, hp, hcp⟩
  · decide
  -- `p` is one of the labels, or the last part (the tld)
  have hne := Bytes.split1_ne_nil 46 dom
  rw [List.getLast?_eq_some_getLast hne] at htld
  rw [← List.dropLast_concat_getLast hne] at hp
  rcases List.mem_append.mp hp with hp1 | hp1
  · exact label_chars p (hlab p hp1) c hcp
  · cases List.mem_singleton.1 hp1
    exact tld_chars _ htld c hcp

/-- `matchesStamp` wants a leading `1`–`9` -/
theorem ofNat_head_pos (n : Nat) (hn : 0 < n) :
    ∃ c cs, Dec.ofNat n = c :: cs ∧ 49 ≤ c ∧ c ≤ 57 := by
  fun_induction Dec.ofNat n with
  | case1 n h =>
    refine ⟨48 + n.toUInt8, [], rfl, ?_⟩
    have : ∀ m : Fin 10, 0 < m.val → (49 : UInt8) ≤ 48 + (m.val).toUInt8 ∧ 48 + (m.val).toUInt8 ≤ 57 := by decide +kernel
    exact this ⟨n, h⟩ hn
  | case2 n h ih =>
    obtain ⟨c, cs, he, hc⟩ := ih (by omega)
    exact ⟨c, cs ++ [48 + (n % 10).toUInt8], by rw [he]; rfl, hc⟩

theorem parseInt_ofNat (n : Nat) (h : n ≤ Fmt.int64Max) : Fmt.parseInt (Dec.ofNat n) = some (n : Int) := by
  rw [Fmt.parseInt_digits _ (Dec.ofNat_ne_nil n) (List.all_eq_true.2 (Dec.ofNat_all_digits n)), Dec.value_ofNat, if_pos h]

/-- a name Goit accepts: no `<` (the reader's `[^<]*`) -/
def NameOK (n : Bytes) : Prop := (60 : UInt8) ∉ n

theorem parse_fields {name email secs ds : Bytes} {sg : UInt8} {t h m : Int} (hn : (60 : UInt8) ∉ name)
    (he : (62 : UInt8) ∉ email) (hs : (32 : UInt8) ∉ secs)
    (hm : matchesEmail email = true) (hst : matchesStamp (secs ++ 32 :: sg :: ds) = true)
    (ht : Fmt.parseInt secs = some t) (hz : Fmt.sscanfZone sg (sg :: ds) = some (h, m)) :
    Sign.parse (name ++ asc " <" ++ email ++ asc "> " ++ secs ++ [32] ++ sg :: ds) =
      some ⟨name, email, t, if sg = 45 then -(3600 * h + 60 * m) else 3600 * h + 60 * m⟩ := by
  have e : name ++ asc " <" ++ email ++ asc "> " ++ secs ++ [32] ++ sg :: ds =
      (name ++ [32]) ++ 60 :: (email ++ 62 :: 32 :: (secs ++ 32 :: sg :: ds)) := by
    simp only [↓List.append_assoc]; rfl
  have hn' : (60 : UInt8) ∉ name ++ [32] := fun h => (List.mem_append.1 h).elim hn (by decide)
  simp only [e, Sign.parse, Bytes.cut1_append _ _ _ hn', Bytes.cut1_append _ _ _ he, Bytes.cut1_append _ _ _ hs,
    List.reverse_append, List.reverse_cons, List.reverse_nil, List.nil_append, List.singleton_append, List.reverse_reverse,
    hm, hst, Bool.and_self, ht, hz, if_true]

/-- **Signature lines round trip**: for every name without `<`, every e-mail address the reader's
    grammar accepts, every positive instant, and every offset whose zone prints and reads back
    (`zoneOK`, established for the whole quarter-hour table by `zone_table`):
    `readSign (Sign.String s) = s`. -/
theorem parse_format (s : Sign) (hn : NameOK s.name) (he : matchesEmail s.email = true)
    (ht : 0 < s.unix) (ht2 : s.unix ≤ Fmt.int64Max) (hz : zoneOK s.offset = true) :
    Sign.parse (Sign.format s) = some s := by
  obtain ⟨name, email, unix, offset⟩ := s
  simp only at hn he ht ht2 hz
  obtain ⟨t, rfl⟩ : ∃ t : Nat, unix = (t : Int) := ⟨unix.toNat, by omega⟩
  unfold zoneOK at hz
  split at hz
  case h_2 => cases hz
  rename_i sg a b c d hzn
  obtain ⟨hz1, hscan⟩ := Bool.and_eq_true_iff.1 hz
  split at hscan
  case h_2 => cases hscan
  rename_i hh mm hsz
  have h62 : (62 : UInt8) ∉ email := fun hm => absurd (email_chars email he 62 hm) (by decide)
  have h32 := Dec.ofNat_not_mem t 32 (by decide)
  have hstamp : matchesStamp (Dec.ofNat t ++ 32 :: [sg, a, b, c, d]) = true := by
    obtain ⟨c0, cs, hofn, hc⟩ := ofNat_head_pos t (by omega)
    have hall := Dec.ofNat_all_digits t
    rw [matchesStamp, Bytes.cut1_append 32 _ _ h32]
    rw [hofn] at hall ⊢
    exact Bool.and_eq_true_iff.2 ⟨by simpa [hc] using fun x hx => hall x (List.mem_cons_of_mem _ hx), hz1⟩
  rw [Sign.format, hzn, show Dec.ofInt (t : Int) = Dec.ofNat t from by simp [Dec.ofInt],
    parse_fields hn h62 h32 he hstamp (parseInt_ofNat t (by omega)) hsz, beq_iff_eq.1 hscan]

/-- the quarter hours of the property's domain satisfy the zone hypothesis -/
theorem parse_format_quarter (name email : Bytes) (t : Int) (k : Fin 105) (hn : NameOK name)
    (he : matchesEmail email = true) (ht : 0 < t) (ht2 : t ≤ Fmt.int64Max) :
    Sign.parse (Sign.format ⟨name, email, t, quarter k⟩) = some ⟨name, email, t, quarter k⟩ :=
  parse_format _ hn he ht ht2 (zone_table k)

/-- the address grammar of the property, `local@label(.label)*.tld`, is accepted -/
example : matchesEmail (asc "b.c+d@mail.example.org") = true ∧ matchesEmail (asc "a@b.cc") = true := by decide +kernel
example : NameOK (asc "Unicode > x") := by unfold NameOK; decide +kernel

end C12
