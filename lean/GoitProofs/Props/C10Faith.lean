import GoitProofs.Props.C03Conn

/-! C10 on the whole-repository model: what each branch / HEAD command leaves in `refs/heads/*` and `HEAD` when it succeeds, that
    a refused one changes nothing, and that `rev-parse` and `branch --list` print the stored state. With
    `C10.world_others_keep` and `W.frame` these are complete step specifications. -/

namespace C10
open W

/-- **refused ⇒ unchanged** for the branch and switch commands, in any state: if `branch …` or `switch …` does not
    succeed, nothing in the repository — no branch file, not HEAD, no log, no object — has changed -/
theorem world_branch_switch_refused_unchanged (H : HashFn) (w : W.World) (i : W.Inv)
    (hc : (∃ a l r d, i.cmd = .branch a l r d) ∨ (∃ a c, i.cmd = .switch a c)) (h : ∀ o, (W.run H w i).2 ≠ .ok o) :
    (W.run H w i).1 = w := by
  rcases run_cases H w i with e | e | ⟨_, hi, _⟩ | ⟨l, _, _, _, e⟩
  · rw [e]
  · rw [e]
  · rcases hc with ⟨_, _, _, _, hc⟩ | ⟨_, _, hc⟩ <;> rw [hc] at hi <;> cases hi
  · obtain ⟨cmd, tz, ts⟩ := i
    rw [e] at h ⊢
    -- below, `rw` closes the leaves in which the world is `w`; what remains are the successful ones, which `h` excludes
    rcases hc with ⟨a, ls, r, d, rfl⟩ | ⟨a, c, rfl⟩
    · change ∀ o, (branchCmd w l a ls r d tz ts).2 ≠ .ok o at h
      change (branchCmd w l a ls r d tz ts).1 = w
      rcases branchCmd_cases w l a ls r d tz ts with e | ⟨out, e⟩ | ⟨n, _, e⟩ | e | e <;> rw [e] at h ⊢
      · rcases branchCreate_cases w l n tz ts with e | ⟨_, _, _, _, _, e⟩ <;> rw [e] at h ⊢
        exact absurd rfl (h none)
      · rcases branchRename_cases w l r tz ts with e | e | ⟨_, _, _, _, _, e⟩ <;> rw [e] at h ⊢
        exact absurd rfl (h none)
      · rcases branchDelete_cases w l d with e | e | ⟨_, _, e⟩ <;> rw [e] at h ⊢
        exact absurd rfl (h none)
    · change ∀ o, (switchCmd H w l a c tz ts).2 ≠ .ok o at h
      change (switchCmd H w l a c tz ts).1 = w
      rcases switchCmd_cases H w l a c tz ts with e | ⟨n, e⟩ | e <;> rw [e] at h ⊢
      · rcases switchTo_cases H w l n tz ts with e | e | ⟨_, _, _, _, _, e⟩ <;> rw [e] at h ⊢
        exact absurd rfl (h none)
      · rcases switchCreate_cases w l c tz ts with e | e | ⟨_, _, _, _, _, e⟩ <;> rw [e] at h ⊢
        exact absurd rfl (h none)

/-- `switch <n>` that succeeds: HEAD is `ref: refs/heads/<n>`, `<n>` is an existing branch, no branch file changes -/
theorem world_switch_spec (H : HashFn) (w : W.World) (l : W.Loaded) (n : Bytes) (tz : Int) (ts : List Int) (o : Option Bytes)
    (h : (W.switchTo H w l n tz ts).2 = .ok o) :
    (W.switchTo H w l n tz ts).1.head = some (Head.render n) ∧ (W.switchTo H w l n tz ts).1.heads = w.heads ∧
      Refs.exists_ l.refs n = true := by
  rcases switchTo_cases H w l n tz ts with e | e | ⟨_, _, hex, _, _, e⟩ <;> rw [e] at h ⊢
  · cases h
  · cases h
  · exact ⟨rfl, rfl, hex⟩

/-- `branch <n>` that succeeds: `<n>` is a valid new name and its file holds the hex id of HEAD's commit; HEAD is untouched -/
theorem world_create_spec (w : W.World) (l : W.Loaded) (n : Bytes) (tz : Int) (ts : List Int) (o : Option Bytes)
    (h : (W.branchCreate w l n tz ts).2 = .ok o) :
    ∃ id c, l.headCommit = some (id, c) ∧ Refs.validName n = true ∧
      W.aget (W.branchCreate w l n tz ts).1.heads n = some (hashStr id) ∧ (W.branchCreate w l n tz ts).1.head = w.head := by
  rcases branchCreate_cases w l n tz ts with e | ⟨id, c, a, hhc, hadd, e⟩ <;> rw [e] at h ⊢
  · cases h
  · exact ⟨id, c, hhc, add_ok_valid _ _ _ _ hadd, aget_aset_self _ _ _, rfl⟩

/-- `branch -d <n>` that succeeds: `<n>` is not the current branch and its file is gone; HEAD is untouched -/
theorem world_delete_spec (w : W.World) (l : W.Loaded) (del : Bytes) (o : Option Bytes) (h : (W.branchDelete w l del).2 = .ok o) :
    del ≠ l.ref ∧ W.aget (W.branchDelete w l del).1.heads del = none ∧ (W.branchDelete w l del).1.head = w.head := by
  rcases branchDelete_cases w l del with e | e | ⟨a, hd, e⟩ <;> rw [e] at h ⊢
  · cases h
  · cases h
  · exact ⟨delete_ok_ne _ _ _ _ hd, aget_adel_self _ _, rfl⟩

/-- `branch -r <new>` that succeeds: the new name holds HEAD's commit, the old name is gone, HEAD names the new one -/
theorem world_rename_spec (w : W.World) (l : W.Loaded) (ren : Bytes) (tz : Int) (ts : List Int) (o : Option Bytes)
    (h : (W.branchRename w l ren tz ts).2 = .ok o) :
    ∃ id c, l.headCommit = some (id, c) ∧ Refs.validName ren = true ∧ l.ref ≠ ren ∧
      W.aget (W.branchRename w l ren tz ts).1.heads ren = some (hashStr id) ∧
      W.aget (W.branchRename w l ren tz ts).1.heads l.ref = none ∧
      (W.branchRename w l ren tz ts).1.head = some (Head.render ren) := by
  rcases branchRename_cases w l ren tz ts with e | e | ⟨id, c, a, hr, hhc, e⟩ <;> rw [e] at h ⊢
  · cases h
  · cases h
  · obtain ⟨hval, hne⟩ := rename_ok_facts _ _ _ _ hr
    refine ⟨id, c, hhc, hval, hne, ?_, aget_adel_self _ _, rfl⟩
    show aget (adel (aset w.heads ren (hashStr id)) l.ref) ren = _
    rw [aget_adel_ne _ _ _ (fun e => hne e.symm), aget_aset_self]

/-- `switch -c <n>` that succeeds: new valid name at HEAD's commit, HEAD names it -/
theorem world_switch_create_spec (w : W.World) (l : W.Loaded) (c : Bytes) (tz : Int) (ts : List Int) (o : Option Bytes)
    (h : (W.switchCreate w l c tz ts).2 = .ok o) :
    ∃ id cm, l.headCommit = some (id, cm) ∧ Refs.validName c = true ∧
      W.aget (W.switchCreate w l c tz ts).1.heads c = some (hashStr id) ∧ (W.switchCreate w l c tz ts).1.head = some (Head.render c) := by
  rcases switchCreate_cases w l c tz ts with e | e | ⟨id, cm, a, hhc, hadd, e⟩ <;> rw [e] at h ⊢
  · cases h
  · cases h
  · exact ⟨id, cm, hhc, add_ok_valid _ _ _ _ hadd, aget_aset_self _ _ _, rfl⟩

/-- **`rev-parse` prints the stored state**: each argument that is answered contributes the bytes of the branch file it names
    (`HEAD`: the branch HEAD names) followed by a line break, in argument order; an argument naming no branch file makes the
    command fail; in a connected repository (`W.Conn`) those bytes are the 40 hex digits of a stored commit. -/
theorem world_revparse_faithful (w : W.World) (l : W.Loaded) (args : List Bytes) (acc out : Bytes)
    (h : W.revParseCmd w l args acc = .ok (some out)) :
    ∃ raws : List Bytes, raws.length = args.length ∧ out = acc ++ (raws.map (· ++ [10])).flatten ∧
      ∀ k (hk : k < args.length) (hk' : k < raws.length),
        W.aget w.heads (if args[k] == asc "HEAD" then l.ref else args[k]) = some raws[k] := by
  fun_induction W.revParseCmd w l args acc with
  | case1 acc => cases h; exact ⟨[], rfl, by simp, nofun⟩
  | case2 => cases h
  | case3 acc a rest _ raw hr ih =>
    -- the one step that prints: the bytes of the file the argument names
    obtain ⟨raws, hlen, hout, hall⟩ := ih h
    refine ⟨raw :: raws, by simp [hlen], by simp [hout, List.append_assoc], fun k hk hk' => ?_⟩
    cases k with
    | zero => simpa using hr
    | succ k => simpa using hall k (by simpa using hk) (by simpa using hk')
  | case4 => cases h

/-- **`branch --list` prints the loaded branch list**: one line per branch file, in the list's order, the branch HEAD names
    marked with `* `, and nothing is changed -/
theorem world_list_faithful (w : W.World) (l : W.Loaded) (tz : Int) (ts : List Int) :
    W.branchCmd w l [] true [] [] tz ts =
      (w, .ok (some ((l.refs.map fun b => (if b.1 == l.ref then asc "* " else []) ++ b.1 ++ [10]).flatten))) := by
  unfold W.branchCmd
  simp

/-- **`update-ref refs/heads/<b> <id>`, when it ends `ok`** (whole-repository model): `<b>` is an existing branch, `<id>` is the
    id of a stored object of kind commit that parses, the branch file now holds its 40 hex digits, HEAD names `<b>`, and every other
    branch file keeps its bytes -/
theorem world_update_ref_spec (H : HashFn) (w : W.World) (l : W.Loaded) (path hs : Bytes) (o : Option Bytes)
    (hok : (W.updateRefCmd H w l [path, hs]).2 = .ok o) :
    ∃ id d b, readHash hs = some id ∧ hs = hashStr id ∧ Store.get H (W.store w) id = .ok (.commit, d) ∧ (Commit.parse d).isSome = true ∧
      b = (Bytes.split1 47 path).getLast?.getD [] ∧ Refs.exists_ l.refs b = true ∧
      W.aget (W.updateRefCmd H w l [path, hs]).1.heads b = some (hashStr id) ∧
      (W.updateRefCmd H w l [path, hs]).1.head = some (Head.render b) ∧
      ∀ n, n ≠ b → W.aget (W.updateRefCmd H w l [path, hs]).1.heads n = W.aget w.heads n := by
  rcases W.updateRefCmd_cases H w l [path, hs] with e | e | ⟨path', hs', id, d, ha, hr, hseq, hg, e⟩
  · rw [e] at hok; cases hok
  · rw [e] at hok; cases hok
  · cases ha
    rw [e] at hok ⊢
    revert hok; rw [W.updateRefTo_eq]; split <;> intro hok
    · cases hok
    · cases hok
    · cases hok
    · next hex _ hp =>
      exact ⟨id, d, _, hr, hseq, hg, by cases hpp : Commit.parse d <;> simp_all, rfl, hex, W.aget_aset_self _ _ _, rfl,
        fun n hn => W.aget_aset_ne _ _ _ _ hn⟩

/-- **`init`**: a successful `init` marks the directory as a repository whose HEAD names `main`, with an empty local configuration,
    and touches nothing else; in a directory that already is a repository `init` fails and changes nothing -/
theorem world_init_spec (H : HashFn) (w : W.World) (tz : Int) (ts : List Int) :
    (∀ o, (W.run H w ⟨.init, tz, ts⟩).2 = .ok o →
      w.inited = false ∧
      (W.run H w ⟨.init, tz, ts⟩).1 = { w with inited := true, head := some (Head.render (asc "main")), cfgLocal := some [] }) ∧
    (w.inited = true → (W.run H w ⟨.init, tz, ts⟩).1 = w ∧ ∀ o, (W.run H w ⟨.init, tz, ts⟩).2 ≠ .ok o) := by
  rcases W.run_cases H w ⟨.init, tz, ts⟩ with e | e | ⟨hi, _, e⟩ | ⟨l, hi, _, _, e⟩
  · rw [e]; exact ⟨nofun, fun _ => ⟨rfl, nofun⟩⟩
  · rw [e]; exact ⟨nofun, fun _ => ⟨rfl, nofun⟩⟩
  · rw [e]
    refine ⟨fun o hok => ⟨hi, ?_⟩, fun h => by rw [hi] at h; cases h⟩
    rcases W.initCmd_cases w with e | e | e <;> rw [e] at hok ⊢
    · cases hok
    · cases hok
  · rw [e]; exact ⟨nofun, fun _ => ⟨rfl, nofun⟩⟩

end C10
