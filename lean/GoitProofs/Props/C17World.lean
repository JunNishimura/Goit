import GoitProofs.Props.C06Full
import GoitProofs.Props.C08World

/-! C17 (`never-overwrites-own-files`): the blob writer behind `reset --hard` and `restore` never writes inside Goit's own
    directory, whatever the outcome, because the lists it is given hold no such path (`W.J`). -/

namespace C17

/-- **`restore` never writes inside Goit's own directory**, whatever its outcome (whole-repository model): a file at a path in
    `.goit` keeps its bytes, because the staging area names no such path (`W.J`, every history) -/
theorem world_restore_never_writes_meta (H : HashFn) (w : W.World) (l : W.Loaded) (args : List Bytes) (p : Bytes)
    (hl : W.load H w = some l) (hj : W.J H w) (hm : IsMeta p) :
    W.aget (W.restoreCmd H w l false args).1.files p = W.aget w.files p := by
  have hno : ∀ e ∈ l.idx, e.path ≠ p := fun e he hep =>
    ((W.goodE_facts l.idx (W.loaded_idx_goodE H w l hl hj.1)).2.1 e he) (hep ▸ hm)
  rw [W.restoreCmd_eq]; split
  · rfl
  · exact W.restoreWorkP_frame_sel H l.idx w args p fun a _ e he => hno e (W.sel_sub l.idx _ e he)
  all_goals contradiction

/-- **`reset` (any mode, any outcome) never writes inside Goit's own directory**: the snapshot of every stored commit is free of
    such paths (`W.J`) -/
theorem world_reset_never_writes_meta (H : HashFn) (w : W.World) (l : W.Loaded) (s h : Bool) (arg t prev : Bytes) (tz : Int) (ts : List Int)
    (p : Bytes) (hj : W.J H w) (hm : IsMeta p) :
    W.aget (W.resetTo H w l s h arg t prev tz ts).1.files p = W.aget w.files p := by
  rw [W.resetTo_eq]; split
  · rfl
  · rfl
  · rfl
  · -- only `--hard` writes files, and only at the paths of the target's snapshot
    next es _ hre => exact W.writeEntries_frame H _ es p fun e he hep =>
      (W.goodE_facts es ((W.readsGoodE H w hj.2).1 t es hre)).2.1 e he (hep ▸ hm)
  · rfl

end C17
