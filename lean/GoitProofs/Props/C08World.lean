import GoitProofs.Lemmas.WorldCases

/-! C08: what a successful `reset` leaves behind, per mode. C08 `hard` and C09 (`restore` in the working tree) at content
    level: after a successful `reset --hard` / `restore <args>` every path of the snapshot / every staged path an argument
    names holds the bytes of its blob; other files keep theirs. -/

namespace W

open C06

/-- what the blob writer needs of its list to leave every path with the bytes of its entry: a later entry on a path
    overwrites an earlier one, so the two must name the same blob -/
def Unique (es : List Entry) : Prop := ∀ a ∈ es, ∀ b ∈ es, a.path = b.path → a.id = b.id

theorem unique_of_canonical (es : List Entry) (h : Canonical es) : Unique es :=
  fun a ha b hb hp => by rw [C06.canonical_inj es h a b ha hb hp]

theorem unique_sub {es es' : List Entry} (hs : ∀ e ∈ es', e ∈ es) (h : Unique es) : Unique es' :=
  fun a ha b hb hp => h a (hs a ha) b (hs b hb) hp

/-- the file at `e.path` holds the bytes of the object `e.id` -/
def FileIs (H : HashFn) (w : World) (e : Entry) : Prop :=
  ∃ k d, Store.get H (store w) e.id = .ok (k, d) ∧ aget w.files e.path = some d

theorem writeEntries_frame (H : HashFn) (w : World) (es : List Entry) (p : Bytes) (hp : ∀ e ∈ es, e.path ≠ p) :
    aget (writeEntries H w es).2.2.files p = aget w.files p := by
  -- `case2` is the one case of `writeEntries` that writes a file and goes on (legend at `writeEntries_append`, Lemmas/World)
  fun_induction writeEntries H w es with
  | case2 w e es k data _ _ ih =>
    rw [ih fun x hx => hp x (List.mem_cons_of_mem _ hx)]
    exact aget_aset_ne _ _ _ _ (fun h => hp e List.mem_cons_self h.symm)
  | _ => rfl

theorem writeEntries_fileIs (H : HashFn) (w : World) (es : List Entry) (hok : (writeEntries H w es).1 = true) (hu : Unique es) :
    ∀ e ∈ es, FileIs H (writeEntries H w es).2.2 e := by
  fun_induction writeEntries H w es with
  | case1 => nofun
  | case2 w x rest k data hg hw ih =>
    have ih' := ih hok (unique_sub (fun x hx => List.mem_cons_of_mem _ hx) hu)
    intro y hy
    rcases List.mem_cons.mp hy with rfl | hy
    · -- a later entry on the same path overwrites this one; by `Unique` it names the same blob
      by_cases hex : ∃ e2 ∈ rest, e2.path = y.path
      · obtain ⟨e2, he2, hp2⟩ := hex
        obtain ⟨k2, d2, hg2, hf2⟩ := ih' e2 he2
        exact ⟨k2, d2, hu e2 (List.mem_cons_of_mem _ he2) y List.mem_cons_self hp2 ▸ hg2, hp2 ▸ hf2⟩
      · refine ⟨k, data, ?_, ?_⟩
        · rw [show store (writeEntries H (writeFile w y.path data) rest).2.2 = store w by unfold store; rw [writeEntries_objs]; rfl]
          exact hg
        · rw [writeEntries_frame H _ rest y.path fun e2 he2 hp => hex ⟨e2, he2, hp⟩]
          exact aget_aset_self _ _ _
    · exact ih' y hy
  | case3 | case4 => cases hok

theorem sel_sub (idx : List Entry) (p : Bytes) : ∀ e ∈ sel idx p, e ∈ idx := by
  intro e he
  unfold sel at he
  split at he
  · exact (C06.byDir_sublist idx p).subset he
  · exact (List.mem_filter.mp he).1

theorem restoreWorkP_frame_sel (H : HashFn) (idx : List Entry) (w : World) (args : List Bytes) (p : Bytes)
    (hp : ∀ a ∈ args, ∀ e ∈ sel idx (Cmds.cleanPath a), e.path ≠ p) : aget (restoreWorkP H idx w args).1.files p = aget w.files p := by
  obtain ⟨as, hpre, e, _⟩ := restoreWorkP_eq H idx w args
  rw [e]
  refine writeEntries_frame H w _ p fun x hx => ?_
  obtain ⟨a, ha, hx⟩ := List.mem_flatMap.1 hx
  exact hp a (hpre.subset ha) x hx

theorem restoreWorkP_fileIs (H : HashFn) (idx : List Entry) (w : World) (args : List Bytes) (o : Option Bytes)
    (h : (restoreWorkP H idx w args).2 = .ok o) (hu : Unique idx) :
    ∀ a ∈ args, ∀ e ∈ sel idx (Cmds.cleanPath a), FileIs H (restoreWorkP H idx w args).1 e := by
  obtain ⟨as, _, e, hs⟩ := restoreWorkP_eq H idx w args
  obtain ⟨rfl, hok⟩ := hs o h
  rw [e]
  have hsub : ∀ x ∈ sels idx as, x ∈ idx := fun x hx => by
    obtain ⟨a, _, hx⟩ := List.mem_flatMap.1 hx; exact sel_sub idx _ x hx
  exact fun a ha x hx => writeEntries_fileIs H w _ hok (unique_sub hsub hu) x (List.mem_flatMap.2 ⟨a, ha, hx⟩)

end W

namespace C08

open W in
/-- **What a successful `reset` leaves behind** (whole-repository model), per mode -/
theorem world_reset_spec (H : HashFn) (w : W.World) (l : W.Loaded) (s h : Bool) (arg t prev : Bytes) (tz : Int) (ts : List Int)
    (o : Option Bytes) (hok : (W.resetTo H w l s h arg t prev tz ts).2 = .ok o) :
    W.aget (W.resetTo H w l s h arg t prev tz ts).1.heads l.ref = some (hashStr t) ∧
      (W.resetTo H w l s h arg t prev tz ts).1.head = w.head ∧ (W.resetTo H w l s h arg t prev tz ts).1.objs = w.objs ∧
      (s = true → (W.resetTo H w l s h arg t prev tz ts).1.index = w.index ∧ (W.resetTo H w l s h arg t prev tz ts).1.files = w.files ∧
        (W.resetTo H w l s h arg t prev tz ts).1.dirs = w.dirs) ∧
      (s = false → ∃ es, (W.resetTo H w l s h arg t prev tz ts).1.index = some es ∧
        (h = false → (W.resetTo H w l s h arg t prev tz ts).1.files = w.files ∧ (W.resetTo H w l s h arg t prev tz ts).1.dirs = w.dirs)) := by
  have hh : aget (resetLogged w l arg t prev tz ts).heads l.ref = some (hashStr t) := aget_aset_self _ _ _
  revert hok; rw [resetTo_eq]; split <;> intro hok
  · cases hok
  · exact ⟨hh, rfl, rfl, fun _ => ⟨rfl, rfl, rfl⟩, fun hf => Bool.noConfusion hf⟩
  · exact ⟨hh, rfl, rfl, fun hf => Bool.noConfusion hf, fun _ => ⟨_, rfl, fun _ => ⟨rfl, rfl⟩⟩⟩
  · exact ⟨by rw [writeEntries_heads]; exact hh, writeEntries_head H _ _, writeEntries_objs H _ _, fun hf => Bool.noConfusion hf,
      fun _ => ⟨_, writeEntries_index H _ _, fun hf => Bool.noConfusion hf⟩⟩
  · cases hok

/-- **`reset --hard`, content level** (whole-repository model): after a successful `reset --hard` to commit `t`, the staging area
    is the snapshot of `t` and every path of it holds, in the working tree, the bytes of the blob the snapshot names
    (hypothesis: the snapshot names one blob per path — what `C06.world_commits_read_back_canonical` proves for every stored commit) -/
theorem world_reset_hard_files (H : HashFn) (w : W.World) (l : W.Loaded) (arg t prev : Bytes) (tz : Int) (ts : List Int) (o : Option Bytes)
    (hok : (W.resetTo H w l false true arg t prev tz ts).2 = .ok o)
    (hsn : ∀ es, Cmds.resetEntries H (W.store w) W.treeDepth t = .ok es → W.Unique es) :
    ∃ es, Cmds.resetEntries H (W.store w) W.treeDepth t = .ok es ∧
      (W.resetTo H w l false true arg t prev tz ts).1.index = some es ∧
      ∀ e ∈ es, W.FileIs H (W.resetTo H w l false true arg t prev tz ts).1 e := by
  revert hok; rw [W.resetTo_eq]; split <;> intro hok
  · cases hok
  · contradiction
  · contradiction
  · next _ es _ _ hre _ =>
    refine ⟨es, hre, W.writeEntries_index H _ es, W.writeEntries_fileIs H _ es ?_ (hsn es hre)⟩
    split at hok
    · assumption
    · split at hok <;> cases hok
  · cases hok

end C08

namespace C09

/-- **`restore <args>` in the working tree, content level** (whole-repository model): after a successful `restore`, every staged
    path an argument names — the path itself, or every staged path beneath a tracked directory — holds the bytes of its staged
    blob; every file no argument names keeps its bytes; nothing but the working tree changes (`C09.world_restore_frame`).
    Hypothesis: the staging area names one blob per path (`W.J`, every history). -/
theorem world_restore_files (H : HashFn) (w : W.World) (l : W.Loaded) (args : List Bytes) (o : Option Bytes)
    (hok : (W.restoreCmd H w l false args).2 = .ok o) (hu : W.Unique l.idx) :
    (∀ a ∈ args, ∀ e ∈ W.sel l.idx (Cmds.cleanPath a), W.FileIs H (W.restoreCmd H w l false args).1 e) ∧
    (∀ p, (∀ a ∈ args, ∀ e ∈ W.sel l.idx (Cmds.cleanPath a), e.path ≠ p) →
      W.aget (W.restoreCmd H w l false args).1.files p = W.aget w.files p) := by
  revert hok; rw [W.restoreCmd_eq]; split <;> intro hok
  · cases hok
  · exact ⟨W.restoreWorkP_fileIs H l.idx w args o hok hu, W.restoreWorkP_frame_sel H l.idx w args⟩
  all_goals contradiction

end C09
