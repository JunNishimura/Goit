import GoitProofs.Lemmas.WorldStore
import GoitProofs.Props.C05Store

/-! C02 (`snapshot`) / C05 (`reset-readback`) through the World's own store and reader. The writer's fuel is not the reader's
    fixed depth `treeDepth`; the step between them is `TreeCodec.walk_mono`. -/

namespace C05

open TreeBuild TreeCodec W

/-- **Snapshot read-back on the whole-repository model** (C02 `snapshot`, C05 `reset-readback`): once `commit()` has
    stored the trees of the staged entries `es` in the World's object store, the World's own reader — `GetObject` of
    the root id, `NewTree`, `getEntriesFromTree`, i.e. what `reset`, `status`, `restore --staged` and the next `commit`
    read — returns exactly `es`. Hypotheses: well-formed paths (non-empty components, no NUL), 20-byte ids, the tree
    objects written do not meet stored objects of other content (`W.Fit`, finite), sane sizes. Together with
    `TreeCodec.walk_mono` (more objects or more fuel never change what was read) this is the store-level half of "what Goit
    reads from a commit is what it wrote" for the composed model. -/
theorem world_readback (H : HashFn) (w : W.World) (es : List Entry) (hok : AllOK es) (heok : EntriesOK es)
    (hfit : W.Fit w (TreeBuild.writeTree H es).writes.reverse) (hsmall : Small (TreeBuild.writeTree H es).writes)
    (hfuel : TreeBuild.fuelFor es ≤ W.treeDepth) :
    W.treeEntries H (W.putObjs w (TreeBuild.writeTree H es).writes.reverse) (TreeBuild.writeTree H es).id = some es := by
  obtain ⟨hget, hwalk⟩ := readback_of_holds H (store (putObjs w (writeTree H es).writes.reverse)) es hok heok
    (fun p hp => putObjs_holds w _ hfit p (List.mem_reverse.mpr hp)) hsmall
  unfold treeEntries
  rw [hget]
  simp only [newTree, if_true]
  rw [walk_mono H _ _ (fun _ _ h => h) (fuelFor es) treeDepth _ _ hfuel hwalk, Option.map_some, C02.flatten_writeTree H es hok]

/-- the tree reader is monotone in the store and in its nesting fuel -/
theorem walk_monotone (H : HashFn) (st st' : Store)
    (hst : ∀ id kd, Store.get H st id = .ok kd → Store.get H st' id = .ok kd)
    (d d' : Nat) (data : Bytes) (ns : List Node) (hd : d ≤ d') (h : TreeCodec.walk H st d data = some ns) :
    TreeCodec.walk H st' d' data = some ns := TreeCodec.walk_mono H st st' hst d d' data ns hd h

end C05
