import GoitProofs.Props.C03Closure

/-! C03 from hypotheses about inputs only (`StepIn`): that the new commit object's `tree` and `parent` lines parse back, which
    `StepOK`/`StepOK3` ask for, is derived from `C12.commit_parse_format` using `Conn` (the branch file holds the hex id of
    a stored commit). -/

namespace W

open C05 TreeBuild

/-- the identity and the message of a `commit` are in the domain in which commit objects read back (C12): an identity the
    signature reader accepts, a message made of lines without CR at the end and shorter than the scanner's limit, author and
    committer lines likewise -/
def CommitDomain (w : World) (msg : Bytes) (tz t : Int) : Prop :=
  ∀ loc glob, Cmds.cfgOf w.cfgLocal = some loc → Cmds.cfgOf w.cfgGlobal = some glob →
    C12.SignOK ⟨Config.userField loc glob (asc "name"), Config.userField loc glob (asc "email"), t, tz⟩ ∧
    Bytes.LineOK (C12.authorLine ⟨Config.userField loc glob (asc "name"), Config.userField loc glob (asc "email"), t, tz⟩) ∧
    Bytes.LineOK (C12.committerLine ⟨Config.userField loc glob (asc "name"), Config.userField loc glob (asc "email"), t, tz⟩) ∧
    ∃ ls, ls ≠ [] ∧ msg = Bytes.join [10] ls ∧ ∀ l ∈ ls, Bytes.LineOK l

theorem lineOK_of_chars (l : Bytes) (h10 : (10 : UInt8) ∉ l) (h13 : (13 : UInt8) ∉ l) (hl : l.length < Bytes.maxToken) : Bytes.LineOK l :=
  ⟨h10, hl, fun h => h13 (List.mem_of_getLast? h)⟩

theorem hexLine_ok (pre t : Bytes) (hpre : (10 : UInt8) ∉ pre ∧ (13 : UInt8) ∉ pre) (hl : pre.length ≤ 100) (ht : t.length = 20) :
    Bytes.LineOK (pre ++ hashStr t) := by
  refine lineOK_of_chars _ (fun h => ?_) (fun h => ?_) ?_
  · exact (List.mem_append.1 h).elim hpre.1 (Hex.encode_not_mem t 10 rfl)
  · exact (List.mem_append.1 h).elim hpre.2 (Hex.encode_not_mem t 13 rfl)
  · rw [List.length_append, hashStr, Hex.encode_length, ht, Bytes.maxToken]; omega

theorem lineOK_nil : Bytes.LineOK [] := ⟨by simp, by simp [Bytes.maxToken], by simp⟩

theorem writeTree_id_len (H : HashFn) (es : List Entry) : (writeTree H es).id.length = 20 :=
  H.len20 _

theorem commitAt_len20 (H : HashFn) (w : World) (hn : Named H w) (id : Bytes) (h : (commitAt H w id).isSome = true) : id.length = 20 := by
  cases hc : commitAt H w id with
  | none => rw [hc] at h; cases h
  | some c =>
    obtain ⟨d, hget, _⟩ := commitAt_some_get H w id c hc
    cases ha : aget w.objs id with
    | none => exact absurd hget (get_ne_ok_of_none H w id _ ha)
    | some content => rw [← hn id content ha]; exact H.len20 _

theorem headerLines_ok (tree : Bytes) (parent : Option Bytes) (a c : Sign) (ht : tree.length = 20)
    (hp : ∀ p, parent = some p → p.length = 20) (ha : Bytes.LineOK (C12.authorLine a)) (hc : Bytes.LineOK (C12.committerLine c)) :
    ∀ x ∈ C12.headerLines tree parent a c, Bytes.LineOK x := by
  intro x hx
  simp only [C12.headerLines, List.mem_append, List.mem_cons, List.not_mem_nil, or_false] at hx
  rcases hx with (rfl | hx) | rfl | rfl
  · exact hexLine_ok (asc "tree ") _ (by decide) (by decide) ht
  · cases parent with
    | none => cases hx
    | some p => cases List.mem_singleton.1 hx; exact hexLine_ok (asc "parent ") p (by decide) (by decide) (hp p rfl)
  · exact ha
  · exact hc

theorem branch_parent (H : HashFn) (w : World) (hconn : Conn H w) (b : Bytes) :
    ∃ parent : Option Bytes, aget w.heads b = parent.map hashStr ∧
      ∀ p, parent = some p → (commitAt H w p).isSome = true ∧ p.length = 20 := by
  cases hb : aget w.heads b with
  | none => exact ⟨none, rfl, nofun⟩
  | some raw =>
    obtain ⟨_, pid, hraw, hpc⟩ := hconn.branches b raw hb
    exact ⟨some pid, by rw [hraw]; rfl, fun p hp => Option.some.inj hp ▸ ⟨hpc, commitAt_len20 H w hconn.named pid hpc⟩⟩

/-- the parent is the commit the branch file names, none when the branch has no file yet -/
theorem commitFormat_parses (H : HashFn) (w : World) (tree ref msg : Bytes) (tz t : Int) (loc glob : Config.Sections)
    (hconn : Conn H w) (ht : tree.length = 20) (hloc : Cmds.cfgOf w.cfgLocal = some loc) (hglob : Cmds.cfgOf w.cfgGlobal = some glob)
    (hdom : CommitDomain w msg tz t) :
    ∃ parent : Option Bytes, aget w.heads ref = parent.map hashStr ∧ (∀ p, parent = some p → (commitAt H w p).isSome = true) ∧
      Commit.parse (Commit.format tree (aget w.heads ref)
          ⟨Config.userField loc glob (asc "name"), Config.userField loc glob (asc "email"), t, tz⟩
          ⟨Config.userField loc glob (asc "name"), Config.userField loc glob (asc "email"), t, tz⟩ msg) =
        some ⟨some tree, parent.toList,
          some ⟨Config.userField loc glob (asc "name"), Config.userField loc glob (asc "email"), t, tz⟩,
          some ⟨Config.userField loc glob (asc "name"), Config.userField loc glob (asc "email"), t, tz⟩, msg⟩ := by
  obtain ⟨hsign, hau, hco, ls, hls, rfl, hmsgl⟩ := hdom loc glob hloc hglob
  obtain ⟨parent, hb, hpar⟩ := branch_parent H w hconn ref
  refine ⟨parent, hb, fun p hp => (hpar p hp).1, ?_⟩
  rw [hb]
  exact C12.commit_parse_format tree parent _ _ ls hls ht (fun p hp => (hpar p hp).2) hsign hsign
    (List.forall_mem_append.2 ⟨List.forall_mem_append.2 ⟨headerLines_ok tree parent _ _ ht (fun p hp => (hpar p hp).2) hau hco,
      List.forall_mem_singleton.2 lineOK_nil⟩, hmsgl⟩)

theorem format_parses (H : HashFn) (w : World) (l : Loaded) (msg : Bytes) (tz t : Int) (loc glob : Config.Sections)
    (hconn : Conn H w) (hloc : Cmds.cfgOf w.cfgLocal = some loc) (hglob : Cmds.cfgOf w.cfgGlobal = some glob)
    (hdom : CommitDomain w msg tz t) :
    (Commit.parse (Commit.format (writeTree H l.idx).id (aget w.heads l.ref)
      ⟨Config.userField loc glob (asc "name"), Config.userField loc glob (asc "email"), t, tz⟩
      ⟨Config.userField loc glob (asc "name"), Config.userField loc glob (asc "email"), t, tz⟩ msg)).isSome = true :=
  let ⟨_, _, _, hp⟩ := commitFormat_parses H w _ l.ref msg tz t loc glob hconn (writeTree_id_len H l.idx) hloc hglob hdom
  hp ▸ rfl

theorem commit_parses (H : HashFn) (w : World) (l : Loaded) (snap : Option (List Entry)) (msg : Bytes) (tz t : Int) (id data : Bytes)
    (hconn : Conn H w) (hcc : Cmds.commitCmd H (commitIn w l snap msg tz t) = .ok (id, data))
    (hdom : CommitDomain w msg tz t) :
    ∃ (parent : Option Bytes) (loc glob : Config.Sections),
      aget w.heads l.ref = parent.map hashStr ∧ (∀ p, parent = some p → (commitAt H w p).isSome = true) ∧
      Cmds.cfgOf w.cfgLocal = some loc ∧ Cmds.cfgOf w.cfgGlobal = some glob ∧
      Commit.parse data = some ⟨some (writeTree H l.idx).id, parent.toList,
        some ⟨Config.userField loc glob (asc "name"), Config.userField loc glob (asc "email"), t, tz⟩,
        some ⟨Config.userField loc glob (asc "name"), Config.userField loc glob (asc "email"), t, tz⟩, msg⟩ := by
  obtain ⟨loc, glob, hloc, hglob, _, rfl, _⟩ := C02.commitCmd_ok H _ id data hcc
  obtain ⟨parent, hb, hpar, hp⟩ := commitFormat_parses H w (writeTree H l.idx).id l.ref msg tz t loc glob hconn
    (writeTree_id_len H l.idx) hloc hglob hdom
  exact ⟨parent, loc, glob, hb, hpar, hloc, hglob, hp⟩

theorem commit_lines (H : HashFn) (w : World) (l : Loaded) (snap : Option (List Entry)) (msg : Bytes) (tz t : Int) (id data : Bytes)
    (hconn : Conn H w) (hcc : Cmds.commitCmd H (commitIn w l snap msg tz t) = .ok (id, data))
    (hdom : CommitDomain w msg tz t) :
    ∀ c, Commit.parse data = some c →
      c.tree = some (writeTree H l.idx).id ∧ ∀ p ∈ c.parents, (commitAt H w p).isSome = true := by
  obtain ⟨parent, loc, glob, _, hpar, _, _, hp⟩ := commit_parses H w l snap msg tz t id data hconn hcc hdom
  intro c hc
  rw [hp] at hc; injection hc with hc; subst hc
  refine ⟨rfl, fun p hpm => ?_⟩
  cases parent with
  | none => cases hpm
  | some q => simp at hpm; rw [hpm]; exact hpar q rfl

/-- `fuelFor l.idx ≤ treeDepth`: the tree reader walks to a fixed depth; a staging area nested deeper is written but does not
    read back -/
def StepIn (H : HashFn) (w : World) (i : Inv) : Prop :=
  match i.cmd with
  | .add _ => (∀ f ∈ w.files, PathOK f.1 ∧ (0 : UInt8) ∉ f.1 ∧ f.2.length ≤ Fmt.int64Max) ∧ BlobsFit H w (w.files.map (·.2))
  | .commit msg => NoClash H w i ∧ ∀ l, load H w = some l →
      Small (writeTree H l.idx).writes ∧ Fit w (writeTree H l.idx).writes.reverse ∧ fuelFor l.idx ≤ treeDepth ∧
      CommitDomain w msg i.tz (clock i.ts 0)
  | .writeTree => ∀ l, load H w = some l → Small (writeTree H l.idx).writes
  | _ => True

theorem commitCmd_of_commitObject (H : HashFn) (w : World) (msg : Bytes) (tz : Int) (ts : List Int) (l : Loaded) (id data : Bytes)
    (hl : load H w = some l) (h : commitObject H w ⟨.commit msg, tz, ts⟩ = some (id, data)) :
    ∃ snap, Cmds.commitCmd H (commitIn w l snap msg tz (clock ts 0)) = .ok (id, data) := by
  unfold commitObject at h
  simp only [hl] at h
  split at h
  · rename_i snap _
    split at h
    · rename_i p hcc
      injection h with h; subst h
      exact ⟨snap, hcc⟩
    · cases h
  · cases h

theorem stepOK_of_inputs (H : HashFn) (w : World) (i : Inv) (hconn : Conn H w) (hin : StepIn H w i) :
    StepOK H w i ∧ StepOK3 H w i ∧ NoClash H w i := by
  obtain ⟨cmd, tz, ts⟩ := i
  cases cmd with
  | add args => exact ⟨hin.1, hin.2, C03.noClash_of_not_commit H w _ (fun m h => by cases h)⟩
  | writeTree => exact ⟨hin, trivial, C03.noClash_of_not_commit H w _ (fun m h => by cases h)⟩
  | commit msg =>
    obtain ⟨hnc, hrest⟩ := hin
    refine ⟨?_, ?_, hnc⟩
    · intro l hl
      obtain ⟨hsm, hfit, hfuel, hdom⟩ := hrest l hl
      refine ⟨hsm, fun id data hco => ?_⟩
      obtain ⟨snap, hcc⟩ := commitCmd_of_commitObject H w msg tz ts l id data hl hco
      exact ⟨hfit, hfuel, fun c hc => (commit_lines H w l snap msg tz _ id data hconn hcc hdom c hc).1, (hnc id data l hco hl).2⟩
    · intro l id data hl hco c hc
      obtain ⟨hsm, hfit, hfuel, hdom⟩ := hrest l hl
      obtain ⟨snap, hcc⟩ := commitCmd_of_commitObject H w msg tz ts l id data hl hco
      exact (commit_lines H w l snap msg tz _ id data hconn hcc hdom c hc).2
  | _ => exact ⟨trivial, trivial, C03.noClash_of_not_commit H w _ (fun m h => by cases h)⟩

def StepsIn (H : HashFn) : World → List Step → Prop
  | _, [] => True
  | w, .cmd i :: r => StepIn H w i ∧ StepsIn H (run H w i).1 r
  | w, .edit f d :: r => StepsIn H { w with files := f, dirs := d } r

def Fsck (H : HashFn) (w : World) : Prop := Conn H w ∧ J H w ∧ K H w

theorem run_fsck (H : HashFn) (w : World) (i : Inv) (h : Fsck H w) (hin : StepIn H w i) : Fsck H (run H w i).1 := by
  obtain ⟨hok, hok3, hnc⟩ := stepOK_of_inputs H w i h.1 hin
  exact ⟨run_conn H w i h.1 hnc, run_J H w i h.2.1 hok, run_K H w i h.2.1 h.2.2 hok hok3⟩

theorem edit_fsck (H : HashFn) (w : World) (f d) (h : Fsck H w) : Fsck H { w with files := f, dirs := d } :=
  ⟨⟨h.1.named, h.1.branches, h.1.head, h.1.fresh⟩, edit_J H w f d h.2.1, edit_K H w f d h.2.2⟩

theorem runSteps_fsck (H : HashFn) (w : World) (ss : List Step) (h : Fsck H w) (hin : StepsIn H w ss) : Fsck H (runSteps H w ss) :=
  runSteps_inv H (Fsck H) (StepsIn H) (fun w i _ h hin => ⟨run_fsck H w i h hin.1, hin.2⟩)
    (fun w f d _ h hin => ⟨edit_fsck H w f d h, hin⟩) ss w h hin

end W

namespace C03

/-- **C03 on the whole-repository model, for every history, from hypotheses about inputs only.** Starting from an empty
    directory, after any sequence of invocations of any sub-commands — successful, refused, failing half-way — interleaved with
    arbitrary edits of the working tree:
    * `Conn`: every object file is named by the hash of its content; every branch file holds the hex id of a stored commit,
      under a name HEAD can hold; HEAD names a branch, which exists unless no branch exists;
    * `J`: the staging area is canonical, free of `.goit` paths, and every stored commit's tree reads back whole as such;
    * `K`: every staged id and every entry of every stored commit's snapshot names a stored blob; every parent of a stored
      commit is a stored commit.
    Hypotheses (`StepsIn`), per step: `add` — the files it may read have clean NUL-free names, fit in 2^63 bytes, and their
    blobs do not collide with stored objects of other content or with each other; `commit` — the tree and commit objects it
    makes fit in 2^63 bytes and do not collide with stored objects of other content, and the identity and the message are in the
    domain in which C12 proves that a commit object reads back; `write-tree` — sizes. Nothing is assumed about what is stored. -/
theorem world_fsck (H : HashFn) (ss : List W.Step) (hin : W.StepsIn H {} ss) : W.Fsck H (W.runSteps H {} ss) :=
  W.runSteps_fsck H {} ss ⟨W.conn_empty H, W.J_empty H, W.K_empty H⟩ hin

theorem world_step_fsck (H : HashFn) (w : W.World) (i : W.Inv) (h : W.Fsck H w) (hin : W.StepIn H w i) : W.Fsck H (W.run H w i).1 :=
  W.run_fsck H w i h hin

end C03

namespace W

private def cfgX : Bytes := asc "[user]\n\tname = X\n\temail = x@example.com\n"
private def secX : Config.Sections := [(asc "user", [(asc "name", asc "X"), (asc "email", asc "x@example.com")])]
private theorem cfgX_parse : Cmds.cfgOf (some cfgX) = some secX := by decide +kernel

/-- the domain of `commit` is inhabited: an ordinary identity, an ordinary message -/
example : CommitDomain { cfgLocal := some cfgX } (asc "first") 0 1700000000 := by
  intro loc glob hl hg
  rw [show ({ cfgLocal := some cfgX } : World).cfgLocal = some cfgX from rfl, cfgX_parse] at hl
  injection hl with hl; subst hl
  have : glob = [] := by
    have h : Cmds.cfgOf ({ cfgLocal := some cfgX } : World).cfgGlobal = some [] := rfl
    rw [h] at hg; injection hg with hg; exact hg.symm
  subst this
  refine ⟨?_, ?_, ?_, [asc "first"], by simp, by decide, ?_⟩
  · unfold C12.SignOK C12.NameOK; decide +kernel
  · unfold Bytes.LineOK; decide +kernel
  · unfold Bytes.LineOK; decide +kernel
  · intro l hl; simp at hl; subst hl; unfold Bytes.LineOK; decide +kernel

end W
