import GoitProofs.Props.C08

/-! # C08 at command level: `goit reset` on the command model `Cmds.resetCmd`

Compared with the real command on every `reset` of the generated histories: refusal, the commit the
branch is set to, the staging area afterwards and (for `--hard`) the work files. -/

namespace C08

open Cmds Reflog

/-- **What a successful `reset` does**: the argument is `HEAD@{n}` with `n` inside the journal, the current
    branch is set to the commit the `reflog` listing displays at position `n`, `--soft` leaves the staging
    area alone while `--mixed`/`--hard` install that commit's snapshot, and only `--hard` touches the
    working tree. -/
theorem resetCmd_ok (so mi ha : Bool) (arg lg : Bytes) (snaps : List (Bytes × List Entry)) (idx : List Entry)
    (out : ResetOut) (h : resetCmd so mi ha arg lg snaps idx = .ok out) :
    ∃ s m n rs r es, modeOf so mi ha = some (s, m, out.hard) ∧ parseResetArg arg = some n ∧
      Reflog.parse lg = some rs ∧ n < rs.length ∧ Reflog.get rs n = some r ∧ r.hash = some out.target ∧
      (listing rs)[n]? = some (n, show7 (some out.target), r.kind, r.msg) ∧
      snaps.find? (fun x => x.1 == out.target) = some (out.target, es) ∧
      out.index = (if s then idx else es) := by
  revert h
  fun_cases resetCmd so mi ha arg lg snaps idx with
  | case7 s m hd hm n hn rs hp r hg t hh c es hf =>
    -- the one answer `ok`; every other leaf is `err`
    rintro ⟨⟩
    have hc : c = t := by simpa using List.find?_some hf
    subst hc
    have hlt : n < rs.length := Nat.lt_of_not_le fun hle => by rw [out_of_range_refused rs n hle] at hg; cases hg
    obtain ⟨r', hr', hl⟩ := position_agrees rs n hlt
    cases hg.symm.trans hr'
    exact ⟨s, m, n, rs, r, es, hm, hn, hp, hlt, hg, hh, by rw [hl, hh], hf, rfl⟩
  | _ => nofun

/-- `--soft` keeps the staging area and the working tree -/
theorem reset_soft (mi : Bool) (arg lg : Bytes) (snaps : List (Bytes × List Entry)) (idx : List Entry) (out : ResetOut)
    (h : resetCmd true mi false arg lg snaps idx = .ok out) : out.index = idx ∧ out.hard = false := by
  obtain ⟨s, m, n, rs, r, es, hm, _, _, _, _, _, _, _, hi⟩ := resetCmd_ok _ _ _ _ _ _ _ _ h
  have : modeOf true mi false = some (true, false, false) := by cases mi <;> decide
  rw [this] at hm
  simp only [Option.some.injEq, Prod.mk.injEq] at hm
  obtain ⟨rfl, _, hh⟩ := hm
  exact ⟨by simpa using hi, hh.symm⟩

/-- a position outside the journal, a rename's zero-id record, two modes at once, or a malformed argument is refused -/
theorem reset_refused (so mi ha : Bool) (arg lg : Bytes) (snaps : List (Bytes × List Entry)) (idx : List Entry)
    (h : modeOf so mi ha = none ∨ parseResetArg arg = none ∨
      (∃ n rs, parseResetArg arg = some n ∧ Reflog.parse lg = some rs ∧
        (rs.length ≤ n ∨ ∃ r, Reflog.get rs n = some r ∧ r.hash = none))) :
    resetCmd so mi ha arg lg snaps idx = .err := by
  unfold resetCmd
  cases hm : modeOf so mi ha with
  | none => rfl
  | some md =>
    obtain ⟨s, m, hd⟩ := md
    rcases h with h | h | ⟨n, rs, h1, h2, h3 | ⟨r, h3, h4⟩⟩
    · cases hm.symm.trans h
    · simp [h]
    · simp [h1, h2, out_of_range_refused rs n h3]
    · simp [h1, h2, h3, h4]

end C08
