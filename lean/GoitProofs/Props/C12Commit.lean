import GoitProofs.Props.C12
import GoitProofs.Lemmas.Lines
import GoitProofs.Lemmas.Hex

/-! # C12 — the whole commit object: what `cmd.commit` writes, `NewCommit` reads back -/

namespace C12

open Bytes

theorem join_unlines (ls : List Bytes) (h : ls ≠ []) : Bytes.join [10] ls ++ [10] = unlines ls := by
  induction ls with
  | nil => exact absurd rfl h
  | cons a rest ih =>
    cases rest with
    | nil => exact (List.append_nil _).symm
    | cons b rest' => rw [Bytes.join, List.append_assoc, ih (List.cons_ne_nil _ _)]; rfl

/-- everything `readSign` needs to give the signature back (C12.parse_format) -/
def SignOK (s : Sign) : Prop :=
  NameOK s.name ∧ Sign.matchesEmail s.email = true ∧ 0 < s.unix ∧ s.unix ≤ Fmt.int64Max ∧ zoneOK s.offset = true

def treeLine (t : Bytes) : Bytes := asc "tree " ++ hashStr t
def parentLine (p : Bytes) : Bytes := asc "parent " ++ hashStr p
def authorLine (s : Sign) : Bytes := asc "author " ++ s.format
def committerLine (s : Sign) : Bytes := asc "committer " ++ s.format

def headerLines (tree : Bytes) (parent : Option Bytes) (a c : Sign) : List Bytes :=
  [treeLine tree] ++ (match parent with | some p => [parentLine p] | none => []) ++ [authorLine a, committerLine c]

theorem format_eq_unlines (tree : Bytes) (parent : Option Bytes) (a c : Sign) (ls : List Bytes) (hls : ls ≠ []) :
    Commit.format tree (parent.map hashStr) a c (Bytes.join [10] ls) =
      unlines (headerLines tree parent a c ++ [[]] ++ ls) := by
  cases parent <;>
    simp only [Commit.format, headerLines, treeLine, parentLine, authorLine, committerLine, Option.map, List.cons_append,
      List.nil_append, unlines_cons, ← join_unlines ls hls, ↓List.append_assoc]

theorem _root_.Commit.header_line {cm : Commit} {kw w body : Bytes} {rest : List Bytes} (hkw : cut1 32 kw = (w, some [])) :
    Commit.header cm ((kw ++ body) :: rest) =
      if w = asc "tree" then (readHash body).bind fun h => Commit.header { cm with tree := some h } rest
      else if w = asc "parent" then (readHash body).bind fun h => Commit.header { cm with parents := cm.parents ++ [h] } rest
      else if w = asc "author" then (Sign.parse body).bind fun s => Commit.header { cm with author := some s } rest
      else if w = asc "committer" then (Sign.parse body).bind fun s => Commit.header { cm with committer := some s } rest
      else Commit.header cm rest := by
  rw [Commit.header, cut1_append_of_some 32 kw w [] body hkw, List.nil_append]
  dsimp only
  cases readHash body <;> cases Sign.parse body <;> rfl

/-- **A commit object round trips**: tree, parent, author, committer and the message text (any number
    of lines, blank lines, colons, non-ASCII; lines without CR at the end and shorter than the scanner's
    64 KiB limit) read back exactly as written. -/
theorem commit_parse_format (tree : Bytes) (parent : Option Bytes) (a c : Sign) (ls : List Bytes)
    (hls : ls ≠ []) (ht : tree.length = 20) (hp : ∀ p, parent = some p → p.length = 20)
    (ha : SignOK a) (hc : SignOK c)
    (hlines : ∀ l ∈ headerLines tree parent a c ++ [[]] ++ ls, LineOK l) :
    Commit.parse (Commit.format tree (parent.map hashStr) a c (Bytes.join [10] ls)) =
      some ⟨some tree, parent.toList, some a, some c, Bytes.join [10] ls⟩ := by
  unfold Commit.parse
  rw [format_eq_unlines tree parent a c ls hls, scanLines_unlines _ hlines]
  have hsa := parse_format a ha.1 ha.2.1 ha.2.2.1 ha.2.2.2.1 ha.2.2.2.2
  have hsc := parse_format c hc.1 hc.2.1 hc.2.2.1 hc.2.2.2.1 hc.2.2.2.2
  -- each header line is a keyword ending in its blank, then the body; the blank line ends the header
  have step_blank : ∀ (cm : Commit) (rest : List Bytes), Commit.header cm ([] :: rest) = some (cm, rest) := fun _ _ => rfl
  obtain ⟨kT, kP, kA, kC⟩ : cut1 32 (asc "tree ") = (asc "tree", some []) ∧ cut1 32 (asc "parent ") = (asc "parent", some []) ∧
      cut1 32 (asc "author ") = (asc "author", some []) ∧ cut1 32 (asc "committer ") = (asc "committer", some []) := by
    decide +kernel
  obtain ⟨nPT, nAT, nAP, nCT, nCP, nCA⟩ : asc "parent" ≠ asc "tree" ∧ asc "author" ≠ asc "tree" ∧
      asc "author" ≠ asc "parent" ∧ asc "committer" ≠ asc "tree" ∧ asc "committer" ≠ asc "parent" ∧
      asc "committer" ≠ asc "author" := by decide +kernel
  have tail : ∀ cm : Commit, Commit.header cm (authorLine a :: committerLine c :: [] :: ls) =
      some ({ cm with author := some a, committer := some c }, ls) := by
    intro cm
    rw [authorLine, committerLine, Commit.header_line kA, if_neg nAT, if_neg nAP, if_pos rfl, hsa, Option.bind_some,
      Commit.header_line kC, if_neg nCT, if_neg nCP, if_neg nCA, if_pos rfl, hsc, Option.bind_some, step_blank]
  cases parent with
  | none =>
    simp only [headerLines, List.append_nil, List.cons_append, List.nil_append]
    rw [treeLine, Commit.header_line kT, if_pos rfl, readHash_hashStr tree ht, Option.bind_some, tail]
    rfl
  | some p =>
    simp only [headerLines, List.cons_append, List.nil_append]
    rw [treeLine, Commit.header_line kT, if_pos rfl, readHash_hashStr tree ht, Option.bind_some,
      parentLine, Commit.header_line kP, if_neg nPT, if_pos rfl, readHash_hashStr p (hp p rfl), Option.bind_some, tail]
    rfl

end C12
