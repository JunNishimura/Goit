import GoitProofs.Props.C05World
import GoitProofs.Props.C06Gen
import GoitProofs.Props.C03Conn

/-! C06 (`canonical`), C17 (`no-meta`) and the snapshot half of C05 as one invariant of every history (`J`), from hypotheses on the
    inputs of each step only (`StepOK`). The idea: every invocation is one `IOStep`, whose staging area is made of old entries,
    entries `add` staged and entries read from stored commits; the last are good because every stored commit's tree reads
    back good (`SnapsGood`), which a `commit` keeps. The one-invocation theorems at the end are *partial*: they assume
    instead that what is read back is good (`ReadsGood`). -/

namespace W

open C05 C06 C17 TreeBuild

-- one conjunct per consumer: C17 (`IsMeta`), the tree writer (`PathOK`), the tree reader (`C05.EntryOK`: no NUL, 20-byte id)
def EntryGood (e : Entry) : Prop := ¬ IsMeta e.path ∧ PathOK e.path ∧ (0 : UInt8) ∉ e.path ∧ e.id.length = 20

abbrev GoodE := GoodP EntryGood

theorem goodE_facts (es : List Entry) (h : GoodE es) : Canonical es ∧ NoMeta es ∧ AllOK es ∧ EntriesOK es :=
  ⟨h.canon, fun e he => (h.all e he).1, fun e he => (h.all e he).2.1, fun e he => ⟨(h.all e he).2.2.2, (h.all e he).2.2.1⟩⟩

def IndexGoodE (w : World) : Prop := ∀ es, w.index = some es → GoodE es

def SnapsGood (H : HashFn) (w : World) : Prop :=
  ∀ id c t, commitAt H w id = some c → c.tree = some t → ∃ es, treeEntries H w t = some es ∧ GoodE es

theorem commitAt_putBlobs (H : HashFn) (w : World) (ds : List Bytes) (hsm : ∀ d ∈ ds, d.length ≤ Fmt.int64Max) (i : Bytes) (c : Commit)
    (hc : commitAt H (ds.foldl (putBlob H) w) i = some c) : commitAt H w i = some c := by
  rw [putBlobs_eq] at hc
  refine commitAt_putObjs_noncommit H w _ (fun p hp => ?_) i c hc
  obtain ⟨d, hd, rfl⟩ := List.mem_map.mp hp
  exact ⟨.blob, d, by decide, by decide, hsm d hd, rfl⟩

theorem commitAt_putTrees (H : HashFn) (w : World) (es : List Entry) (hsm : Small (writeTree H es).writes) (i : Bytes) (c : Commit)
    (hc : commitAt H (putObjs w (writeTree H es).writes.reverse) i = some c) : commitAt H w i = some c := by
  refine commitAt_putObjs_noncommit H w _ (fun p hp => ?_) i c hc
  have hp' := List.mem_reverse.mp hp
  obtain ⟨d, rfl⟩ := writes_are_trees H _ es p hp'
  have h1 : d.length ≤ (Obj.encode .tree d).length := by simp [Obj.encode]
  exact ⟨.tree, d, by decide, by decide, Nat.le_trans h1 (hsm _ hp'), rfl⟩

theorem snapsGood_grow (H : HashFn) (w w' : World) (ho : OL w.objs w'.objs) (New : Commit → Prop)
    (hnc : ∀ i c, commitAt H w' i = some c → commitAt H w i = some c ∨ New c)
    (hnew : ∀ c t, New c → c.tree = some t → ∃ es, treeEntries H w' t = some es ∧ GoodE es)
    (hs : SnapsGood H w) : SnapsGood H w' := by
  intro i c t hc ht
  rcases hnc i c hc with h | h
  · obtain ⟨es, he, hg⟩ := hs i c t h ht
    exact ⟨es, treeEntries_mono H w w' ho t es he, hg⟩
  · exact hnew c t h ht

structure CommitOK (H : HashFn) (w : World) (idx : List Entry) (id data : Bytes) : Prop where
  fit : Fit w (writeTree H idx).writes.reverse
  fuel : fuelFor idx ≤ treeDepth
  treeLine : ∀ c, Commit.parse data = some c → c.tree = some (writeTree H idx).id
  size : data.length ≤ Fmt.int64Max

theorem commitAt_commitStore (H : HashFn) (w : World) (idx : List Entry) (id data : Bytes) (hid : id = Obj.id H .commit data)
    (hsm : Small (writeTree H idx).writes) (hsz : data.length ≤ Fmt.int64Max) (i : Bytes) (c : Commit)
    (hc : commitAt H (commitStore H w idx id data) i = some c) : commitAt H w i = some c ∨ Commit.parse data = some c := by
  subst hid
  exact (commitAt_putObj_cases H _ .commit data (by decide) hsz i c hc).imp (commitAt_putTrees H w idx hsm i c) (·.2)

theorem treeEntries_commitStore (H : HashFn) (w : World) (idx : List Entry) (id data : Bytes) (hg : GoodE idx)
    (hsm : Small (writeTree H idx).writes) (hfit : Fit w (writeTree H idx).writes.reverse) (hfuel : fuelFor idx ≤ treeDepth) :
    treeEntries H (commitStore H w idx id data) (writeTree H idx).id = some idx :=
  let ⟨_, _, hall, heok⟩ := goodE_facts idx hg
  treeEntries_mono H _ _ (putObj_le _ _ _) _ idx (C05.world_readback H w idx hall heok hfit hsm hfuel)

theorem snapsGood_at {H : HashFn} {w : World} (hs : SnapsGood H w) {id t : Bytes} {c : Commit} {es : List Entry}
    (hc : commitAt H w id = some c) (ht : c.tree = some t) (hte : treeEntries H w t = some es) : GoodE es := by
  obtain ⟨es', he', hg⟩ := hs id c t hc ht
  rw [hte] at he'; cases he'; exact hg

/-- both readers return the entries of a tree that some stored commit names -/
theorem reads_goodp {H : HashFn} {w : World} {P : Entry → Prop}
    (h : ∀ id c t es, commitAt H w id = some c → c.tree = some t → treeEntries H w t = some es → GoodP P es) :
    (∀ t es, Cmds.resetEntries H (store w) treeDepth t = .ok es → GoodP P es) ∧
    (∀ l es, load H w = some l → headSnap H w l = .ok es → GoodP P es) :=
  ⟨fun t es hr => let ⟨c, tr, hc, ht, hte⟩ := (resetEntries_ok_iff H w t es).1 hr; h t c tr es hc ht hte,
   fun l es hl hs => let ⟨id, c, t, hhc, ht, hte⟩ := (headSnap_ok_iff H w l es).1 hs
     h id c t es (load_headCommit H w l hl id c hhc).1 ht hte⟩

theorem readsGoodE (H : HashFn) (w : World) (hs : SnapsGood H w) :
    (∀ t es, Cmds.resetEntries H (store w) treeDepth t = .ok es → GoodE es) ∧
    (∀ l es, load H w = some l → headSnap H w l = .ok es → GoodE es) :=
  reads_goodp fun _ _ _ _ hc ht hte => snapsGood_at hs hc ht hte

theorem loaded_idx_eq (H : HashFn) (w : World) (l : Loaded) (hl : load H w = some l) : l.idx = w.index.getD [] :=
  (load_some hl).2.2.1

theorem loaded_idx_goodp {P : Entry → Prop} (H : HashFn) (w : World) (l : Loaded) (hl : load H w = some l)
    (hg : ∀ es, w.index = some es → GoodP P es) : GoodP P l.idx := by
  rw [loaded_idx_eq H w l hl]
  cases hi : w.index with
  | none => exact goodp_nil
  | some es => exact hg es hi

theorem loaded_idx_goodE (H : HashFn) (w : World) (l : Loaded) (hl : load H w = some l) (hg : IndexGoodE w) : GoodE l.idx :=
  loaded_idx_goodp H w l hl hg

/-- the second clause asks less: `restore --staged` takes entries from HEAD's snapshot one at a time, `reset` installs what it
    reads whole — and `ReadsGood` gives no more for HEAD's snapshot -/
def Reads (H : HashFn) (w : World) (P : Entry → Prop) : Prop :=
  (∀ t es, Cmds.resetEntries H (store w) treeDepth t = .ok es → GoodP P es) ∧
  (∀ l es, load H w = some l → headSnap H w l = .ok es → ∀ e ∈ es, P e)

theorem reads_of_snaps {H : HashFn} {w : World} {P : Entry → Prop}
    (h : ∀ id c t es, commitAt H w id = some c → c.tree = some t → treeEntries H w t = some es → GoodP P es) : Reads H w P :=
  ⟨(reads_goodp h).1, fun l es hl hs => ((reads_goodp h).2 l es hl hs).all⟩

/-- the sub-commands that install entries read from a stored commit -/
def readsCommits : Cmd → Prop
  | .reset _ _ _ _ | .restore _ _ => True
  | _ => False

/-- what one invocation does to the staging area and the object store; `index`: new entries are staged ones or read from
    stored commits (`rm`, `restore --staged`, `reset`) -/
inductive IOStep (H : HashFn) (i : Inv) (w w' : World) : Prop where
  | same (ho : w'.objs = w.objs) (hi : w'.index = w.index)
  | add (l : Loaded) (args : List Bytes) (hl : load H w = some l) (hc : i.cmd = .add args)
      (ho : w'.objs = ((addArgsP H (ws w l []) args l.idx []).blobs.foldl (putBlob H) w).objs)
      (hi : w'.index = w.index ∨ w'.index = some (addArgsP H (ws w l []) args l.idx []).idx)
  | index (es : List Entry) (ho : w'.objs = w.objs) (hi : w'.index = some es)
      (src : ∀ P : Entry → Prop, (∀ es, w.index = some es → GoodP P es) → (readsCommits i.cmd → Reads H w P) → GoodP P es)
  | trees (l : Loaded) (hl : load H w = some l) (hc : (∃ m, i.cmd = .commit m) ∨ i.cmd = .writeTree)
      (ho : w'.objs = (putObjs w (writeTree H l.idx).writes.reverse).objs) (hi : w'.index = w.index)
  | commit (l : Loaded) (id data : Bytes) (hl : load H w = some l) (hco : commitObject H w i = some (id, data))
      (hid : id = Obj.id H .commit data) (ho : w'.objs = (commitStore H w l.idx id data).objs) (hi : w'.index = w.index)

theorem IOStep.of_writes {H : HashFn} {i : Inv} {P S B} {w w' : World} (h : Writes H P S B w w')
    (h1 : Field.objs ∉ S := by decide) (h2 : Field.index ∉ S := by decide) : IOStep H i w w' :=
  .same (h.get .objs h1) (h.get .index h2)

theorem IOStep.set (H : HashFn) (i : Inv) (w w1 : World) (o n : List Entry) (ho : w1.objs = w.objs) (hi : w1.index = w.index)
    (src : ∀ P : Entry → Prop, (∀ es, w.index = some es → GoodP P es) → (readsCommits i.cmd → Reads H w P) → GoodP P n) :
    IOStep H i w (setIndexIfChanged w1 o n) := by
  rcases setIndexIfChanged_cases w1 o n with h | h <;> rw [h]
  · exact .same ho hi
  · exact .index n ho rfl src

theorem commitWrite_objs (H : HashFn) (w : World) (l : Loaded) (id data msg : Bytes) (tz : Int) (ts : List Int) :
    (commitWrite H w l id data msg tz ts).1.objs = (commitStore H w l.idx id data).objs := by
  rw [commitWrite_eq]; split <;>
    generalize commitStore H w l.idx id data = w1 <;> rfl

theorem addCmd_io (H) (i : Inv) (w l args) (hl : load H w = some l) (hc : i.cmd = .add args) : IOStep H i w (addCmd H w l args).1 := by
  rcases addCmd_cases H w l args with ⟨_, _, e⟩ | ⟨_, _, e⟩ <;> rw [e]
  · exact .same rfl rfl
  · exact .add l args hl hc (setIndexIfChanged_objs' _ _ _)
      ((setIndexIfChanged_cases _ _ _).imp (fun h => by rw [h, putBlobs_index']) fun h => by rw [h])

theorem rmCmd_io (H) (i : Inv) (w l args) (hl : load H w = some l) : IOStep H i w (rmCmd w l args).1 := by
  rcases rmCmd_cases w l args with ⟨_, _, e⟩ | ⟨_, e⟩ <;> rw [e]
  · exact .same rfl rfl
  · exact IOStep.set H i w _ l.idx _ rfl rfl fun P hg _ => goodp_sublist (loaded_idx_goodp H w l hl hg) (rmArgsP_sublist args l.idx [])

theorem restoreCmd_io (H) (i : Inv) (w l st args) (hl : load H w = some l) (hc : readsCommits i.cmd) : IOStep H i w (restoreCmd H w l st args).1 := by
  rw [restoreCmd_eq]; split
  · exact .same rfl rfl
  · exact .same (restoreWorkP_objs' H _ w _) (restoreWorkP_index' H _ w _)
  · exact IOStep.set H i w w _ _ rfl rfl (fun P hg hr =>
      goodp_restoreStagedArgs _ ((hr hc).2 l _ hl ‹_›) args l.idx (loaded_idx_goodp H w l hl hg))
  · exact .same rfl rfl
  · exact .same rfl rfl

theorem resetCmd_io (H) (i : Inv) (w l s m h args tz ts) (hc : readsCommits i.cmd) : IOStep H i w (resetCmd H w l s m h args tz ts).1 := by
  rcases resetCmd_cases H w l s m h args tz ts with e | ⟨s, h, arg, t, prev, _, _, _, e⟩ <;> rw [e]
  · exact .same rfl rfl
  rw [resetTo_eq]; split
  · exact .same rfl rfl
  · exact .same rfl rfl
  · next es _ hre => exact .index es rfl rfl fun P _ hr => (hr hc).1 t es hre
  · next es _ hre => exact .index es (writeEntries_objs H _ es) (writeEntries_index H _ es) fun P _ hr => (hr hc).1 t es hre
  · exact .same rfl rfl

theorem commitCmd_io (H) (w l msg tz ts) (hl : load H w = some l) :
    IOStep H ⟨.commit msg, tz, ts⟩ w (commitCmd H w l msg tz ts).1 := by
  have hi := (commitCmd_writes H w l msg tz ts).get .index   -- the index is not in `commit`'s row of the frame table
  rcases commitCmd_cases H w l msg tz ts with ⟨_, e⟩ | ⟨_, e⟩ | ⟨snap, hs, ⟨_, _, e⟩ | ⟨_, _, e⟩ | ⟨id, data, hcc, e⟩⟩ <;> rw [e] at hi ⊢
  · exact .same rfl rfl
  · exact .same rfl rfl
  · exact .same rfl rfl
  · exact .trees l hl (.inl ⟨msg, rfl⟩) rfl hi
  · obtain ⟨_, _, _, _, _, _, hid, _, _, _⟩ := C02.commitCmd_ok H _ id data hcc
    exact .commit l id data hl (commitObject_of_commitCmd H w l hl msg tz ts snap _ hs hcc) hid
      (commitWrite_objs H w l id data msg tz ts) hi

theorem run_io (H : HashFn) (w : World) (i : Inv) : IOStep H i w (run H w i).1 := by
  have hw := run_writes H w i
  rcases run_cases H w i with e | e | ⟨_, hc, _⟩ | ⟨l, _, _, hl, e⟩
  · rw [e]; exact .same rfl rfl
  · rw [e]; exact .same rfl rfl
  · rw [hc] at hw; exact .of_writes hw
  obtain ⟨cmd, tz, ts⟩ := i
  cases cmd with
  | add args => rw [e]; exact addCmd_io H _ w l args hl rfl
  | rm args => rw [e]; exact rmCmd_io H _ w l args hl
  | restore st args => rw [e]; exact restoreCmd_io H _ w l st args hl trivial
  | reset s m h args => rw [e]; exact resetCmd_io H _ w l s m h args tz ts trivial
  | commit msg => rw [e]; exact commitCmd_io H w l msg tz ts hl
  | writeTree => rw [e]; exact .trees l hl (.inr rfl) rfl (putObjs_index' w _)
  | config g args => cases g <;> exact .of_writes hw (by simp [mayTouch]) (by simp [mayTouch])
  -- the other sub-commands touch neither store: the frame table
  | _ => exact .of_writes hw (by simp [mayTouch]) (by simp [mayTouch])

theorem IOStep.index_goodp {H : HashFn} {i : Inv} {w w' : World} (h : IOStep H i w w') (P : Entry → Prop)
    (hg : ∀ es, w.index = some es → GoodP P es) (hr : readsCommits i.cmd → Reads H w P)
    (hadd : ∀ l args, load H w = some l → i.cmd = .add args →
      w'.objs = ((addArgsP H (ws w l []) args l.idx []).blobs.foldl (putBlob H) w).objs → GoodP P (addArgsP H (ws w l []) args l.idx []).idx) :
    ∀ es, w'.index = some es → GoodP P es := by
  intro es he
  cases h with
  | same _ hi => exact hg es (hi ▸ he)
  | add l args hl hc ho hi =>
    rcases hi with hi | hi
    · exact hg es (hi ▸ he)
    · rw [hi] at he; cases he; exact hadd l args hl hc ho
  | index es' _ hi src => rw [hi] at he; cases he; exact src P hg hr
  | trees _ _ _ _ hi => exact hg es (hi ▸ he)
  | commit _ _ _ _ _ _ _ hi => exact hg es (hi ▸ he)

-- the invariant: the staging area is good, and so is what every stored commit's tree reads back as
def J (H : HashFn) (w : World) : Prop := IndexGoodE w ∧ SnapsGood H w

/-- `.add` asks of every work file, not of those the arguments name: which files `add` reads depends on the directories it walks -/
def StepOK (H : HashFn) (w : World) (i : Inv) : Prop :=
  match i.cmd with
  | .add _ => ∀ f ∈ w.files, PathOK f.1 ∧ (0 : UInt8) ∉ f.1 ∧ f.2.length ≤ Fmt.int64Max
  | .commit _ => ∀ l, load H w = some l → Small (writeTree H l.idx).writes ∧
      ∀ id data, commitObject H w i = some (id, data) → CommitOK H w l.idx id data
  | .writeTree => ∀ l, load H w = some l → Small (writeTree H l.idx).writes
  | _ => True

theorem StepOK.add {H : HashFn} {w : World} {i : Inv} (h : StepOK H w i) {args : List Bytes} (hc : i.cmd = .add args) :
    ∀ f ∈ w.files, PathOK f.1 ∧ (0 : UInt8) ∉ f.1 ∧ f.2.length ≤ Fmt.int64Max := by
  unfold StepOK at h; rw [hc] at h; exact h

theorem StepOK.trees {H : HashFn} {w : World} {i : Inv} (h : StepOK H w i) (hc : (∃ m, i.cmd = .commit m) ∨ i.cmd = .writeTree)
    {l : Loaded} (hl : load H w = some l) : Small (writeTree H l.idx).writes := by
  unfold StepOK at h
  rcases hc with ⟨m, hc⟩ | hc <;> rw [hc] at h
  · exact (h l hl).1
  · exact h l hl

theorem StepOK.commit {H : HashFn} {w : World} {i : Inv} (h : StepOK H w i) {l : Loaded} (hl : load H w = some l) {id data : Bytes}
    (hco : commitObject H w i = some (id, data)) : CommitOK H w l.idx id data := by
  obtain ⟨m, hc⟩ := isCommit_of_commitObject hco
  unfold StepOK at h; rw [hc] at h
  exact (h l hl).2 id data hco

theorem addArgsP_blobs_small {H : HashFn} {w : World} {i : Inv} (hok : StepOK H w i) {l : Loaded} {args : List Bytes} (hc : i.cmd = .add args)
    (hcan : Canonical l.idx) : ∀ d ∈ (addArgsP H (ws w l []) args l.idx []).blobs, d.length ≤ Fmt.int64Max := fun d hd =>
  let ⟨p, h1⟩ := (addArgsP_spec H (fun _ => True) (ws w l []) args l.idx ⟨hcan, fun _ _ => trivial⟩).2 d hd
  (hok.add hc (p, d) h1).2.2

def NewCommit (H : HashFn) (i : Inv) (w w' : World) (c : Commit) : Prop :=
  ∃ l id data, load H w = some l ∧ commitObject H w i = some (id, data) ∧ Commit.parse data = some c ∧
    w'.objs = (commitStore H w l.idx id data).objs

def OnlyNewCommit (H : HashFn) (i : Inv) (w w' : World) : Prop :=
  ∀ x c, commitAt H w' x = some c → commitAt H w x = some c ∨ NewCommit H i w w' c

theorem OnlyNewCommit.of_objs {H : HashFn} {i : Inv} {w w' w1 : World} (ho : w'.objs = w1.objs)
    (hnc : ∀ x c, commitAt H w1 x = some c → commitAt H w x = some c ∨ NewCommit H i w w' c) : OnlyNewCommit H i w w' :=
  fun x c hc => hnc x c (commitAt_of_aget H w1 w' x (by rw [ho]) ▸ hc)

theorem IOStep.onlyNewCommit {H : HashFn} {i : Inv} {w w' : World} (h : IOStep H i w w') (hok : StepOK H w i) (hg : IndexGoodE w) :
    OnlyNewCommit H i w w' := by
  cases h with
  | same ho _ => exact .of_objs ho fun _ _ => .inl
  | index _ ho _ _ => exact .of_objs ho fun _ _ => .inl
  | add l args hl hc ho _ =>
    exact .of_objs ho fun x c hx => .inl (commitAt_putBlobs H w _
      (addArgsP_blobs_small hok hc (loaded_idx_goodp H w l hl hg).canon) x c hx)
  | trees l hl hc ho _ =>
    exact .of_objs ho fun x c hx => .inl (commitAt_putTrees H w l.idx (hok.trees hc hl) x c hx)
  | commit l id data hl hco hid ho _ =>
    exact .of_objs ho fun x c hx =>
      (commitAt_commitStore H w l.idx id data hid (hok.trees (.inl (isCommit_of_commitObject hco)) hl) (hok.commit hl hco).size x c hx).imp_right
        fun hp => ⟨l, id, data, hl, hco, hp, ho⟩

theorem NewCommit.tree {H : HashFn} {i : Inv} {w w' : World} {c : Commit} (h : NewCommit H i w w' c) (hok : StepOK H w i) (hg : IndexGoodE w) :
    ∃ l, load H w = some l ∧ c.tree = some (writeTree H l.idx).id ∧ treeEntries H w' (writeTree H l.idx).id = some l.idx := by
  obtain ⟨l, id, data, hl, hco, hp, ho⟩ := h
  refine ⟨l, hl, (hok.commit hl hco).treeLine c hp, ?_⟩
  rw [treeEntries_of_objs H _ w' ho]
  exact treeEntries_commitStore H w l.idx id data (loaded_idx_goodp H w l hl hg) (hok.trees (.inl (isCommit_of_commitObject hco)) hl)
    (hok.commit hl hco).fit (hok.commit hl hco).fuel

theorem run_J (H : HashFn) (w : World) (i : Inv) (hj : J H w) (hok : StepOK H w i) : J H (run H w i).1 := by
  have hio := run_io H w i
  refine ⟨hio.index_goodp EntryGood hj.1 (fun _ => reads_of_snaps fun _ _ _ _ hc ht hte => snapsGood_at hj.2 hc ht hte) (fun l args hl hc _ => ?_), ?_⟩
  · exact goodp_weaken (fun e he => he.elim id fun ⟨d, _, hid, hm, ix, hni⟩ =>
        ⟨mt (ignored_meta _ _) hni, (hok.add hc _ hm).1, (hok.add hc _ hm).2.1, hid ▸ H.len20 _⟩)
      (addArgsP_spec H EntryGood (ws w l []) args l.idx (loaded_idx_goodp H w l hl hj.1)).1
  · refine snapsGood_grow H w _ (run_writes H w i).objs _ (hio.onlyNewCommit hok hj.1) (fun c t hn ht => ?_) hj.2
    obtain ⟨l, hl, htl, hte⟩ := hn.tree hok hj.1
    rw [htl] at ht; cases ht
    exact ⟨l.idx, hte, loaded_idx_goodp H w l hl hj.1⟩

/-- one step of a history: an invocation, or the user replacing the working tree by anything at all -/
inductive Step where
  | cmd (i : Inv)
  | edit (files : List (Bytes × Bytes)) (dirs : List Bytes)

def stepW (H : HashFn) (w : World) : Step → World
  | .cmd i => (run H w i).1
  | .edit f d => { w with files := f, dirs := d }

def runSteps (H : HashFn) (w : World) (ss : List Step) : World := ss.foldl (stepW H) w

def StepsOK (H : HashFn) : World → List Step → Prop
  | _, [] => True
  | w, .cmd i :: r => StepOK H w i ∧ StepsOK H (run H w i).1 r
  | w, .edit f d :: r => StepsOK H { w with files := f, dirs := d } r

theorem edit_J (H) (w : World) (f d) (hj : J H w) : J H { w with files := f, dirs := d } := hj

/-- `Hyps`: what is asked along the history, of the first step and then of the rest from the next state (`StepsOK` and the like) -/
theorem runSteps_inv (H : HashFn) (I : World → Prop) (Hyps : World → List Step → Prop)
    (hcmd : ∀ w i r, I w → Hyps w (.cmd i :: r) → I (run H w i).1 ∧ Hyps (run H w i).1 r)
    (hedit : ∀ w f d r, I w → Hyps w (.edit f d :: r) → I { w with files := f, dirs := d } ∧ Hyps { w with files := f, dirs := d } r)
    (ss : List Step) (w : World) (hi : I w) (hh : Hyps w ss) : I (runSteps H w ss) := by
  unfold runSteps
  induction ss generalizing w with
  | nil => exact hi
  | cons s r ih =>
    cases s with
    | cmd i => exact ih _ (hcmd w i r hi hh).1 (hcmd w i r hi hh).2
    | edit f d => exact ih _ (hedit w f d r hi hh).1 (hedit w f d r hi hh).2

theorem runSteps_J (H : HashFn) (w : World) (ss : List Step) (hj : J H w) (hok : StepsOK H w ss) : J H (runSteps H w ss) :=
  runSteps_inv H (J H) (StepsOK H) (fun w i _ hj hok => ⟨run_J H w i hj hok.1, hok.2⟩)
    (fun w f d _ hj hok => ⟨edit_J H w f d hj, hok⟩) ss w hj hok

theorem J_empty (H : HashFn) : J H {} := by
  refine ⟨fun es h => (nomatch h), fun id c t h _ => ?_⟩
  rw [commitAt_empty] at h; cases h

end W

namespace C06
open C05 C17 TreeBuild

/-- **The staging area is canonical after every history** (clauses `sorted`, `unique`, `clean`, `entries`), with no assumption
    about what the stored commits hold: starting from an empty directory, after any sequence of invocations — successful, refused,
    or failing half-way — interleaved with arbitrary edits of the working tree, the index (when there is one) is strictly
    sorted by path, holds no path twice, only clean relative paths without NUL, and 20-byte ids.
    Input conditions (`StepsOK`): the files `add` may read have clean NUL-free names and fit in 2^63 bytes; the tree and commit
    objects a `commit`/`write-tree` makes fit too, the new commit object does not collide with a stored object of other
    content, and its own `tree` line reads back (what `C12.commit_parse_format` proves for the commits the generator makes). -/
theorem world_index_canonical (H : HashFn) (ss : List W.Step) (hok : W.StepsOK H {} ss) (es : List Entry)
    (h : (W.runSteps H {} ss).index = some es) : Canonical es ∧ AllOK es ∧ EntriesOK es :=
  let g := W.goodE_facts es ((W.runSteps_J H {} ss (W.J_empty H) hok).1 es h)
  ⟨g.1, g.2.2.1, g.2.2.2⟩

/-- **Every tree a stored commit names reads back, whole, as a canonical staging area free of `.goit` paths** (what `reset`,
    `restore --staged` and `status` read), after every history, under the input conditions of `world_index_canonical` -/
theorem world_commits_read_back_canonical (H : HashFn) (ss : List W.Step) (hok : W.StepsOK H {} ss) (id : Bytes) (c : Commit) (t : Bytes)
    (hc : W.commitAt H (W.runSteps H {} ss) id = some c) (ht : c.tree = some t) :
    ∃ es, W.treeEntries H (W.runSteps H {} ss) t = some es ∧ Canonical es ∧ NoMeta es :=
  let ⟨es, he, hg⟩ := (W.runSteps_J H {} ss (W.J_empty H) hok).2 id c t hc ht
  ⟨es, he, (W.goodE_facts es hg).1, (W.goodE_facts es hg).2.1⟩

/-- one step, from any state that meets the invariant -/
theorem world_step_index_canonical (H : HashFn) (w : W.World) (i : W.Inv) (hj : W.J H w) (hok : W.StepOK H w i) :
    W.J H (W.run H w i).1 := W.run_J H w i hj hok

end C06

namespace C17

/-- **No `.goit` path ever enters the staging area, after every history**, whatever is on disk, whatever the arguments,
    whatever the stored commits — under the input conditions of `C06.world_index_canonical` -/
theorem world_no_meta (H : HashFn) (ss : List W.Step) (hok : W.StepsOK H {} ss) (es : List Entry)
    (h : (W.runSteps H {} ss).index = some es) : ∀ e ∈ es, ¬ IsMeta e.path :=
  (W.goodE_facts es ((W.runSteps_J H {} ss (W.J_empty H) hok).1 es h)).2.1

end C17

/-- the input conditions are satisfiable by a real history (init, create a file, stage it, delete everything, remove it) -/
example (H : HashFn) : W.StepsOK H {}
    [.cmd ⟨.init, 0, []⟩, .edit [([97], [120]), ([98, 47, 99], [])] [[98]], .cmd ⟨.add [[97], [98]], 0, []⟩,
     .edit [] [], .cmd ⟨.rm [[97]], 0, []⟩, .cmd ⟨.status, 0, []⟩] := by
  refine ⟨trivial, ?_, trivial, trivial, trivial⟩
  intro f hf
  have : f = ([97], [120]) ∨ f = ([98, 47, 99], []) := by simpa using hf
  rcases this with rfl | rfl <;> exact ⟨by unfold TreeBuild.PathOK; decide, by decide, by decide⟩

namespace W

open C06 C17

structure Good (es : List Entry) : Prop where
  canon : Canonical es
  nometa : NoMeta es

def IndexGood (w : World) : Prop := ∀ es, w.index = some es → Good es

/-- the one-invocation statement with no hypothesis on what is read, over every history; stated only, no theorem concludes it -/
def IndexGoodAlways (H : HashFn) : Prop := ∀ is : List Inv, IndexGood (runAll H {} is)

/-- the hypothesis of the partial theorems; along a history `readsGoodE` gives more (`GoodE`, of which `goodE_facts` has these) -/
def ReadsGood (H : HashFn) (w : World) : Prop :=
  (∀ t es, Cmds.resetEntries H (store w) treeDepth t = .ok es → Good es) ∧
  (∀ l es, load H w = some l → headSnap H w l = .ok es → NoMeta es)

theorem good_iff_goodp (es : List Entry) : Good es ↔ GoodP (fun e => ¬ IsMeta e.path) es :=
  ⟨fun h => ⟨h.canon, h.nometa⟩, fun h => ⟨h.canon, h.all⟩⟩

theorem run_index_good (H : HashFn) (w : World) (i : Inv) (hg : IndexGood w) (hr : readsCommits i.cmd → ReadsGood H w) :
    IndexGood (run H w i).1 := fun es he =>
  (good_iff_goodp es).mpr ((run_io H w i).index_goodp _ (fun es h => (good_iff_goodp es).mp (hg es h))
    (fun h => ⟨fun t es h' => (good_iff_goodp es).mp ((hr h).1 t es h'), (hr h).2⟩)
    (fun l args hl _ _ => goodp_weaken (fun _ he => he.elim id fun ⟨_, _, _, _, _, hni⟩ => mt (ignored_meta _ _) hni)
      (addArgsP_spec H _ (ws w l []) args l.idx (loaded_idx_goodp H w l hl fun es h => (good_iff_goodp es).mp (hg es h))).1) es he)

theorem run_index_good_partial (H : HashFn) (w : World) (i : Inv) (hg : IndexGood w) (hr : ReadsGood H w) : IndexGood (run H w i).1 :=
  run_index_good H w i hg (fun _ => hr)

end W

namespace C06

/-- **C06 `canonical` through every invocation of the whole-repository model** (partial, see the file header): whatever
    the command, its arguments and its outcome, a staging area that was strictly sorted and duplicate-free stays so -/
theorem world_index_canonical_partial (H : HashFn) (w : W.World) (i : W.Inv) (hg : W.IndexGood w) (hr : W.ReadsGood H w)
    (es : List Entry) (he : (W.run H w i).1.index = some es) : Canonical es :=
  (W.run_index_good_partial H w i hg hr es he).canon

end C06

namespace C17

/-- **C17 `no-meta` through every invocation** (partial, same hypothesis): no form of `add`, `rm`, `restore`, `reset`
    ever puts a path inside `.goit` into the staging area -/
theorem world_no_meta_partial (H : HashFn) (w : W.World) (i : W.Inv) (hg : W.IndexGood w) (hr : W.ReadsGood H w)
    (es : List Entry) (he : (W.run H w i).1.index = some es) : NoMeta es :=
  (W.run_index_good_partial H w i hg hr es he).nometa

/-- without `reset` and `restore --staged` there is nothing to assume: `add` and `rm` alone keep the invariant -/
theorem world_add_rm_no_meta (H : HashFn) (w : W.World) (i : W.Inv) (hg : W.IndexGood w)
    (hc : (∃ a, i.cmd = .add a) ∨ (∃ a, i.cmd = .rm a)) : W.IndexGood (W.run H w i).1 := by
  rcases hc with ⟨a, hc⟩ | ⟨a, hc⟩ <;> exact W.run_index_good H w i hg (fun h => by rw [hc] at h; exact h.elim)

end C17
