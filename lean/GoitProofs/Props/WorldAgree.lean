import GoitProofs.Lemmas.WorldCases

/-! The argument loops of the whole-repository model (`W.addArgsP`, `W.rmArgsP`: they keep what a failing command
    leaves behind) and `W.configCmd` **agree** with the command models the C04 / C17 / C20 theorems are about
    (`Cmds.addArgs`, `Cmds.rmArgs`: they keep only the successful result; `Cmds.configCmd`). So every theorem
    about those command models is a theorem about what `W.run` — the function compared with the real binary on
    every step — does to the staging area, the working tree and the configuration files. -/

namespace W

def AddR.res (r : AddR) : Res (List Entry) := bif r.crash then .crash else bif r.ok then .ok r.idx else .err

theorem addArgs_eq (H : HashFn) (w : Cmds.WS) (args : List Bytes) (idx : List Entry) (bs : List Bytes) :
    Cmds.addArgs H w args idx = (addArgsP H w args idx bs).res := by
  induction args generalizing idx bs with
  | nil => rfl
  | cons a rest ih =>
    unfold addArgsP Cmds.addArgs
    dsimp only
    cases Cmds.ignored { w with index := idx } (Cmds.cleanPath a)
    case true => exact ih _ _
    cases Cmds.existsOnDisk w (Cmds.cleanPath a)
    case false => cases IndexOps.delete idx (Cmds.cleanPath a) <;> first | exact ih _ _ | rfl
    cases Cmds.isDirOnDisk w (Cmds.cleanPath a)
    case true =>
      generalize List.foldl _ (Res.ok idx) _ = r
      cases r <;> first | exact ih _ _ | rfl
    cases Cmds.fileAt w (Cmds.cleanPath a) with
    | none => rfl
    | some data => dsimp only; cases Cmds.addOne H idx (Cmds.cleanPath a) data <;> first | exact ih _ _ | rfl

theorem rmArgs_eq (w : Cmds.WS) (args : List Bytes) (idx : List Entry) (removed : List Bytes) :
    Cmds.rmArgs w args idx removed = bif (rmArgsP args idx removed).1 then .ok (rmArgsP args idx removed).2 else .err := by
  induction args generalizing idx removed with
  | nil => rfl
  | cons a rest ih =>
    unfold rmArgsP Cmds.rmArgs
    simp only [ih]
    generalize (!IndexOps.found _ _ && !IndexOps.isDir idx _) = g
    cases g <;> rfl

end W

namespace C04

/-- **`add` on the whole-repository model is the command model**: when `W.run` of an `add` ends `ok`, the staging
    area it leaves is the one `Cmds.add` computes — so `addArgs_frame`, `add_file_staged`, `add_dir_staged`,
    `C17.addArgs_no_meta` speak about it -/
theorem world_add_is_cmd (H : HashFn) (w : W.World) (l : W.Loaded) (args : List Bytes) (o : Option Bytes)
    (h : (W.addCmd H w l args).2 = .ok o) :
    ∃ idx', Cmds.add H (W.ws w l []) args = .ok idx' ∧
      (W.addCmd H w l args).1.index = (if idx' = l.idx then w.index else some idx') := by
  rcases W.addCmd_cases H w l args with ⟨_, rfl | rfl, e⟩ | ⟨h2, h3, e⟩ <;> rw [e] at h ⊢
  · cases h
  · cases h
  refine ⟨(W.addArgsP H (W.ws w l []) args l.idx []).idx, ?_, by rw [W.setIndexIfChanged_index_eq, W.putBlobs_index']⟩
  rw [Cmds.add, h2]
  -- `erw`: `Cmds.add` tests `(W.ws w l []).index`, the guard `h3` speaks of `l.idx`; the two are equal by unfolding only
  erw [if_pos h3, W.addArgs_eq H _ args _ []]
  show (W.addArgsP H (W.ws w l []) args l.idx []).res = _
  generalize W.addArgsP H (W.ws w l []) args l.idx [] = r at h ⊢
  obtain ⟨ok, crash, idx, bs⟩ := r
  cases crash <;> cases ok <;> first | rfl | cases h

/-- **`rm` on the whole-repository model is the command model** (`rm_exact`, `rmArgs_exact`, `rm_unknown_refused` apply) -/
theorem world_rm_is_cmd (w : W.World) (l : W.Loaded) (args : List Bytes) (o : Option Bytes) (h : (W.rmCmd w l args).2 = .ok o) :
    ∃ idx' removed, Cmds.rm (W.ws w l []) args = .ok (idx', removed) ∧
      (W.rmCmd w l args).1.files = w.files.filter (fun f => !removed.contains f.1) ∧
      (W.rmCmd w l args).1.index = (if idx' = l.idx then w.index else some idx') := by
  rcases W.rmCmd_cases w l args with ⟨_, rfl | rfl, e⟩ | ⟨h1, e⟩ <;> rw [e] at h ⊢
  · cases h
  · cases h
  rw [Cmds.rm]
  erw [if_pos h1, W.rmArgs_eq]
  show ∃ idx' removed, (bif (W.rmArgsP args l.idx []).1 then Res.ok (W.rmArgsP args l.idx []).2 else .err) = _ ∧ _
  generalize W.rmArgsP args l.idx [] = r at h ⊢
  obtain ⟨ok, idx', removed⟩ := r
  cases ok with
  | false => cases h
  | true => exact ⟨idx', removed, rfl, by rw [W.setIndexIfChanged_files'], by rw [W.setIndexIfChanged_index_eq]⟩

end C04

namespace C20

/-- **`config` on the whole-repository model is the command model**: a successful `config [--global] k v` writes
    `Config.render` of exactly the sections `Cmds.configCmd` computes into the file the flag selects (and creates an
    empty local file if there was none); so `configCmd_ok`, `configCmd_roundtrip` (the file loads again and reads
    back exactly, every other key as before) and `configCmd_refused` speak about `W.run` -/
theorem world_config_is_cmd (w : W.World) (g : Bool) (key value : Bytes) (o : Option Bytes)
    (h : (W.configCmd w g [key, value]).2 = .ok o) :
    ∃ c', Cmds.configCmd (if g then w.cfgGlobal else w.cfgLocal) key value = .ok c' ∧
      (if g then (W.configCmd w g [key, value]).1.cfgGlobal else (W.configCmd w g [key, value]).1.cfgLocal) = some (Config.render c') ∧
      (g = true → (W.configCmd w g [key, value]).1.cfgLocal = some (w.cfgLocal.getD [])) ∧
      (g = false → (W.configCmd w g [key, value]).1.cfgGlobal = w.cfgGlobal) := by
  rcases W.configCmd_cases w g [key, value] with he | ⟨_, _, c', ha, hc, he⟩
  · rw [he] at h; cases h
  cases ha
  rw [he]
  refine ⟨c', hc, ?_, ?_, ?_⟩
  · cases g <;> cases w.cfgLocal <;> rfl
  · rintro rfl; cases hl : w.cfgLocal <;> simp [hl]
  · rintro rfl; cases w.cfgLocal <;> rfl

/-- a refused `config` (wrong number of arguments, malformed key, line break) changes nothing -/
theorem world_config_refused_unchanged (w : W.World) (g : Bool) (args : List Bytes) (h : ∀ o, (W.configCmd w g args).2 ≠ .ok o) :
    (W.configCmd w g args).1 = w := by
  rcases W.configCmd_cases w g args with he | ⟨_, _, _, _, _, he⟩
  · rw [he]
  · exact (h none (by rw [he])).elim

end C20
