import GoitModel.Refs
import GoitProofs.Lemmas.Bytes
import GoitProofs.Lemmas.Hex

/-! # C11 — Reflog is a faithful, append-only journal that always reads back -/

namespace C11

open Reflog

theorem zone_no_tab (o : Int) : (9 : UInt8) ∉ zone o := fun h =>
  (List.mem_append.1 h).elim (Dec.plus03_not_mem _ 9 (by decide) (by decide) (by decide))
    (Dec.pad2_not_mem _ 9 (by decide) (by decide))

theorem hashOrZeros_no_space : ∀ h : Option Bytes, (32 : UInt8) ∉ hashOrZeros h
  | none => fun h => absurd (List.eq_of_mem_replicate h) (by decide)
  | some x => Hex.encode_not_mem x 32 rfl

theorem kind_str (k : RecKind) : (58 : UInt8) ∉ k.str ∧ RecKind.parse k.str = k := by
  -- one evaluation for the five kinds: the kernel then evaluates each `asc` literal once, not once per case
  have : ∀ k ∈ [RecKind.undefined, .commit, .checkout, .branch, .reset],
      (58 : UInt8) ∉ k.str ∧ RecKind.parse k.str = k := by decide +kernel
  exact this k (by cases k <;> decide)

theorem parseLine_fields {frm to hdr k m : Bytes} {h : Option Bytes} (h1 : (32 : UInt8) ∉ frm) (h2 : (32 : UInt8) ∉ to)
    (h3 : (9 : UInt8) ∉ hdr) (hk : (58 : UInt8) ∉ k)
    (hto : (if to = zeros40 then some none else (readHash to).map some) = some h) :
    parseLine (frm ++ 32 :: (to ++ 32 :: (hdr ++ 9 :: (k ++ (asc ": " ++ m))))) =
      if RecKind.parse k = .undefined then .skip else .record ⟨h, RecKind.parse k, m⟩ := by
  simp only [parseLine, Bytes.cut1_append _ _ _ h1, Bytes.cut1_append _ _ _ h2, Bytes.cut1_append _ _ _ h3, hto,
    show asc ": " = [58, 32] from by decide, Bytes.cutSeq_append 58 [32] k m hk]

/-- what the *writer* guarantees about a record: name and e-mail come from the configuration (tabs are
    deleted when it is loaded), the action kind is one of the four real kinds, ids are 20 bytes and a
    real id is not all zeros -/
def LineSafe (r : Rec) : Prop :=
  (9 : UInt8) ∉ r.name ∧ (9 : UInt8) ∉ r.email ∧ r.kind ≠ .undefined ∧
  ∀ id, r.to = some id → id.length = 20 ∧ hashStr id ≠ zeros40

/-- the entry a record reads back as -/
def loaded (r : Rec) : Loaded := ⟨r.to, r.kind, firstLine r.msg⟩

/-- the line without its final newline -/
def lineOf (r : Rec) : Bytes :=
  hashOrZeros r.frm ++ [32] ++ hashOrZeros r.to ++ [32] ++ r.name ++ asc " <" ++ r.email ++ asc "> "
    ++ Dec.ofInt r.unix ++ [32] ++ zone r.offset ++ [9] ++ r.kind.str ++ asc ": " ++ firstLine r.msg

theorem format_eq (r : Rec) : format r = lineOf r ++ [10] := rfl

/-- **Whatever the commit message contains** (`": "`, tabs, several lines, lines of three or more
    words, a text that looks like a hash), every identity and every time-zone offset: the line the
    writer produces reads back as exactly one entry with the same commit, the same kind of action and
    the first line of the message. -/
theorem parseLine_format (r : Rec) (h : LineSafe r) : parseLine (lineOf r) = .record (loaded r) := by
  obtain ⟨hn, he, hk, hid⟩ := h
  have hhdr : (9 : UInt8) ∉ r.name ++ (asc " <" ++ (r.email ++ (asc "> " ++ (Dec.ofInt r.unix ++ 32 :: zone r.offset)))) := by
    simp only [List.mem_append, List.mem_cons, not_or]
    exact ⟨hn, by decide +kernel, he, by decide +kernel, Dec.ofInt_not_mem _ 9 (by decide) (by decide), by decide, zone_no_tab _⟩
  have hto : (if hashOrZeros r.to = zeros40 then some none else (readHash (hashOrZeros r.to)).map some) = some r.to := by
    cases hto : r.to with
    | none => exact if_pos rfl
    | some id => rw [hashOrZeros, if_neg (hid id hto).2, readHash_hashStr id (hid id hto).1]; rfl
  have e1 : lineOf r = hashOrZeros r.frm ++ 32 :: (hashOrZeros r.to ++ 32 ::
      ((r.name ++ (asc " <" ++ (r.email ++ (asc "> " ++ (Dec.ofInt r.unix ++ 32 :: zone r.offset))))) ++ 9 ::
        (r.kind.str ++ (asc ": " ++ firstLine r.msg)))) := by
    -- `↓`: reassociating from the root is linear in the number of pieces
    simp only [lineOf, ↓List.append_assoc, List.cons_append, List.nil_append]
  rw [e1, parseLine_fields (hashOrZeros_no_space _) (hashOrZeros_no_space _) hhdr (kind_str _).1 hto, (kind_str _).2,
    if_neg hk]
  rfl

/-- reading the log one more line: earlier entries are untouched, in content and in order -/
theorem parseLines_snoc (ls : List Bytes) (l : Bytes) :
    parseLines (ls ++ [l]) = (parseLines ls).bind fun rs =>
      match parseLine l with
      | .fail => none
      | .skip => some rs
      | .record r => some (rs ++ [r]) := by
  induction ls with
  | nil => rw [List.nil_append, parseLines, parseLines]; cases parseLine l <;> rfl
  | cons a as ih =>
    rw [List.cons_append, parseLines, parseLines, ih]
    cases parseLine a with
    | fail => rfl
    | skip => rfl
    | record r =>
      cases parseLines as with
      | none => rfl
      | some rs => cases parseLine l <;> rfl

/-- **Append-only**: a log that read back as `rs`, extended by the line of a record the writer
    produced, reads back as `rs ++ [that record]` -/
theorem parse_append (ls : List Bytes) (rs : List Loaded) (r : Rec) (h : LineSafe r)
    (hls : parseLines ls = some rs) : parseLines (ls ++ [lineOf r]) = some (rs ++ [loaded r]) := by
  rw [parseLines_snoc, hls, parseLine_format r h]; rfl

/-- **`reflog` and `reset HEAD@{n}` resolve position n to the same entry**: `GetRecord n` returns the
    entry the listing shows at position n (newest first) -/
theorem get_agrees_with_listing (rs : List Loaded) (n : Nat) (hn : n < rs.length) :
    ∃ r, Reflog.get rs n = some r ∧
      (listing rs)[n]? = some (n, show7 r.hash, r.kind, r.msg) := by
  have hidx : rs.length - 1 - n < rs.length := by omega
  refine ⟨rs[rs.length - 1 - n], ?_, ?_⟩
  · rw [Reflog.get, if_neg (Nat.not_le.mpr hn), List.getElem?_eq_getElem hidx]
  · rw [listing, List.getElem?_map, List.getElem?_range hn, Option.map_some, List.getElem?_eq_getElem hidx]

theorem get_eq_reverse (rs : List Loaded) (n : Nat) : Reflog.get rs n = rs.reverse[n]? := by
  unfold Reflog.get
  split
  · next h => rw [List.getElem?_eq_none (by simpa using h)]
  · next h => rw [List.getElem?_reverse (by omega)]

theorem get_out_of_range (rs : List Loaded) (n : Nat) (hn : rs.length ≤ n) : Reflog.get rs n = none := if_pos hn

/-- appending shifts every position by exactly one: HEAD@{0} is the new entry, HEAD@{n+1} is the old HEAD@{n} -/
theorem get_append_zero (rs : List Loaded) (r : Loaded) : Reflog.get (rs ++ [r]) 0 = some r := by
  rw [get_eq_reverse, List.reverse_append]; rfl

theorem get_append_succ (rs : List Loaded) (r : Loaded) (n : Nat) :
    Reflog.get (rs ++ [r]) (n + 1) = Reflog.get rs n := by
  rw [get_eq_reverse, get_eq_reverse, List.reverse_append]; rfl

/-- non-vacuity: a message with a colon, a tab, three words on a second line, and a negative half-hour zone -/
example : LineSafe ⟨.commit, none, some (List.replicate 20 7), asc "Test User", asc "t@example.com", 1700000000, -12600,
    asc "fix: colon\tmsg\nthree more words"⟩ := by
  exact ⟨by decide +kernel, by decide +kernel, by decide, fun id hid => by cases hid; decide +kernel⟩

end C11
