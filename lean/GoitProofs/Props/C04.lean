import GoitProofs.Props.C06

/-! # C04 — Staging is exact: the index operations behind `add` and `rm`

`Index.Update` and `Index.DeleteEntry` on a canonical index, first position by position, then (`update_spec`,
`delete_spec`) as a `Mix`: the step changes the staging area only at the paths in `S`, and there it holds a source's
entries. `Frame` and `Mix` compose, which is how the command files get from one argument to a list of arguments. -/

namespace C04

open IndexOps C06

/-- after `Index.Update` the entries are a permutation of the old ones with the updated entry in place -/
theorem update_perm (es : List Entry) (hs : Canonical es) (id p : Bytes) :
    (∀ i, (h : i < es.length) → es[i].path = p → es[i].id ≠ id →
        update es id p = .ok (true, sortEntries (es.eraseIdx i ++ [⟨id, p⟩]))) ∧
    (∀ i, (h : i < es.length) → es[i].path = p → es[i].id = id → update es id p = .ok (false, es)) ∧
    ((∀ e ∈ es, e.path ≠ p) → update es id p = .ok (true, sortEntries (es ++ [⟨id, p⟩]))) := by
  obtain ⟨h1, h2, _⟩ := getEntry_correct es hs p
  refine ⟨fun i hi hp hne => ?_, fun i hi hp he => ?_, fun hn => by simp [update, h2 hn]⟩
  · simp [update, h1 i hi hp, List.getElem?_eq_getElem hi, hne]
  · simp [update, h1 i hi hp, List.getElem?_eq_getElem hi, he, hp]

/-- **Re-adding an unchanged file changes nothing** (same id, same path ⇒ the index is not even rewritten) -/
theorem update_same_noop (es : List Entry) (hs : Canonical es) (e : Entry) (he : e ∈ es) :
    update es e.id e.path = .ok (false, es) := by
  obtain ⟨i, hi, hei⟩ := List.getElem_of_mem he
  exact (update_perm es hs e.id e.path).2.1 i hi (by rw [hei]) (by rw [hei])

theorem sortEntries_perm (es : List Entry) : (sortEntries es).Perm es := List.mergeSort_perm _ _
theorem sortEntries_sorted (es : List Entry) : (sortEntries es).Pairwise (fun a b => leEntry a b = true) :=
  pairwise_mergeSort_key Entry.path es

theorem sort_canonical (es : List Entry) (hn : (paths es).Nodup) : Canonical (sortEntries es) :=
  sortedKeys_mergeSort Entry.path es hn

/-- **Unstaging removes exactly the named path**; an untracked path is refused. -/
theorem delete_exact (es : List Entry) (hs : Canonical es) (p : Bytes) :
    (∀ i, (h : i < es.length) → es[i].path = p → delete es p = .ok (es.eraseIdx i)) ∧
    ((∀ e ∈ es, e.path ≠ p) → delete es p = .err) := by
  obtain ⟨h1, h2, _⟩ := getEntry_correct es hs p
  exact ⟨fun i hi hp => by simp [delete, h1 i hi hp], fun hn => by simp [delete, h2 hn]⟩

/-- removing an entry keeps the index canonical -/
theorem eraseIdx_canonical (es : List Entry) (hs : Canonical es) (i : Nat) : Canonical (es.eraseIdx i) :=
  sublist_canonical (List.eraseIdx_sublist es i) hs

theorem mem_eraseIdx_canonical (es : List Entry) (hs : Canonical es) (i : Nat) (hi : i < es.length) (e : Entry) :
    e ∈ es.eraseIdx i ↔ e ∈ es ∧ e.path ≠ es[i].path := by
  rw [List.mem_eraseIdx_iff_getElem, List.mem_iff_getElem]
  constructor
  · rintro ⟨j, hj, hne, rfl⟩
    exact ⟨⟨j, hj, rfl⟩, fun hp => hne (canonical_pos es hs j i hj hi hp)⟩
  · rintro ⟨⟨j, hj, rfl⟩, hp⟩
    exact ⟨j, hj, fun h => hp (by subst h; rfl), rfl⟩

/-- `idx'` holds the same entries as `idx` at every path outside `S` -/
def Frame (S : Bytes → Prop) (idx idx' : List Entry) : Prop := ∀ e : Entry, ¬ S e.path → (e ∈ idx' ↔ e ∈ idx)

theorem Frame.refl (S : Bytes → Prop) (idx : List Entry) : Frame S idx idx := fun _ _ => Iff.rfl

theorem Frame.trans {S T : Bytes → Prop} {a b c : List Entry} (h1 : Frame S a b) (h2 : Frame T b c) :
    Frame (fun p => S p ∨ T p) a c :=
  fun e he => (h2 e fun h => he (Or.inr h)).trans (h1 e fun h => he (Or.inl h))

theorem Frame.mono {S T : Bytes → Prop} {a b : List Entry} (h : Frame S a b) (hST : ∀ p, S p → T p) : Frame T a b :=
  fun e he => h e fun hs => he (hST _ hs)

/-- `idx'` is canonical, holds `src`'s entries at the paths in `S` and `idx`'s elsewhere. A plain conjunction, so that
    statements that write the three facts out (`C09.restoreIndexOne_spec`, `C09.restoreStaged_exact`) are `Mix` by unfolding. -/
def Mix (S : Bytes → Prop) (src idx idx' : List Entry) : Prop :=
  Canonical idx' ∧ (∀ e : Entry, S e.path → (e ∈ idx' ↔ e ∈ src)) ∧ Frame S idx idx'

theorem Mix.trans {S T : Bytes → Prop} {src a b c : List Entry} (h1 : Mix S src a b) (h2 : Mix T src b c) :
    Mix (fun p => S p ∨ T p) src a c :=
  ⟨h2.1, fun e he => Classical.byCases (h2.2.1 e) fun ht => (h2.2.2 e ht).trans (h1.2.1 e (he.resolve_right ht)),
    h1.2.2.trans h2.2.2⟩

theorem Mix.widen {S T : Bytes → Prop} {src a b : List Entry} (h : Mix S src a b) (hST : ∀ p, S p → T p)
    (hn : ∀ e : Entry, T e.path → ¬ S e.path → (e ∈ a ↔ e ∈ src)) : Mix T src a b :=
  ⟨h.1, fun e ht => Classical.byCases (h.2.1 e) fun hs => (h.2.2 e hs).trans (hn e ht hs), h.2.2.mono hST⟩

theorem Mix.congr {S T : Bytes → Prop} {src a b : List Entry} (h : Mix S src a b) (hST : ∀ p, S p ↔ T p) :
    Mix T src a b :=
  h.widen (fun p => (hST p).1) fun _ ht hs => absurd ((hST _).2 ht) hs

theorem Mix.source {S : Bytes → Prop} {src src' a b : List Entry} (h : Mix S src a b)
    (hs : ∀ e : Entry, S e.path → (e ∈ src ↔ e ∈ src')) : Mix S src' a b :=
  ⟨h.1, fun e he => (h.2.1 e he).trans (hs e he), h.2.2⟩

theorem Mix.then {S : Bytes → Prop} {src₁ src₂ a b c : List Entry} (h1 : Mix S src₁ a b) (h2 : Mix S src₂ b c) :
    Mix S src₂ a c :=
  ⟨h2.1, h2.2.1, fun e he => (h2.2.2 e he).trans (h1.2.2 e he)⟩

theorem eraseIdx_mix (es : List Entry) (hs : Canonical es) (i : Nat) (hi : i < es.length) :
    Mix (· = es[i].path) [] es (es.eraseIdx i) :=
  ⟨eraseIdx_canonical es hs i,
    fun e hp => ⟨fun he => absurd hp ((mem_eraseIdx_canonical es hs i hi e).1 he).2, fun h => nomatch h⟩,
    fun e he => (mem_eraseIdx_canonical es hs i hi e).trans (and_iff_left he)⟩

theorem insert_spec (es : List Entry) (hs : Canonical es) (x : Entry) (hn : ∀ e ∈ es, e.path ≠ x.path) :
    Mix (· = x.path) [x] es (sortEntries (es ++ [x])) := by
  have hm : ∀ e, e ∈ sortEntries (es ++ [x]) ↔ e ∈ [x] ∨ e ∈ es :=
    fun e => (sortEntries_perm _).mem_iff.trans (List.mem_append.trans or_comm)
  refine ⟨sort_canonical _ ?_, fun e hp => (hm e).trans (or_iff_left fun he => hn e he hp),
    fun e he => (hm e).trans (or_iff_right fun h => he (List.mem_singleton.1 h ▸ rfl))⟩
  unfold paths
  rw [List.map_append, List.nodup_append]
  refine ⟨canonical_nodup es hs, List.pairwise_singleton _ _, fun a ha b hb => ?_⟩
  obtain ⟨e, he, rfl⟩ := List.mem_map.1 ha
  cases List.mem_singleton.1 hb
  exact hn e he

theorem update_spec (es : List Entry) (hs : Canonical es) (id p : Bytes) :
    ∃ ch es', update es id p = .ok (ch, es') ∧ Mix (· = p) [⟨id, p⟩] es es' := by
  rcases getEntry_cases es hs p with ⟨i, hi, rfl, _⟩ | ⟨hn, _⟩
  · by_cases hid : es[i].id = id
    · refine ⟨false, es, (update_perm es hs id _).2.1 i hi rfl hid, hs, fun e hp => ?_, Frame.refl _ _⟩
      have hx : es[i] = ⟨id, es[i].path⟩ := by rw [← hid]
      rw [← hx, List.mem_singleton]
      exact ⟨fun he => canonical_inj es hs e es[i] he (List.getElem_mem hi) hp, fun h => h ▸ List.getElem_mem hi⟩
    · exact ⟨true, _, (update_perm es hs id _).1 i hi rfl hid, (eraseIdx_mix es hs i hi).then
        (insert_spec _ (eraseIdx_canonical es hs i) ⟨id, es[i].path⟩
          fun e he => ((mem_eraseIdx_canonical es hs i hi e).1 he).2)⟩
  · exact ⟨true, _, (update_perm es hs id p).2.2 hn, insert_spec es hs ⟨id, p⟩ hn⟩

theorem delete_spec (es : List Entry) (hs : Canonical es) (p : Bytes) (es' : List Entry) (h : delete es p = .ok es') :
    Mix (· = p) [] es es' := by
  rcases getEntry_cases es hs p with ⟨i, hi, rfl, hg⟩ | ⟨_, hg⟩
  · simp only [delete, hg, Res.ok.injEq] at h
    exact h ▸ eraseIdx_mix es hs i hi
  · simp [delete, hg] at h

/-- **Staging a path stages exactly that path**: the new entry is present, and an entry with any other
    path is present afterwards iff it was present before. -/
theorem update_membership (es : List Entry) (hs : Canonical es) (id p : Bytes) :
    ∃ ch es', update es id p = .ok (ch, es') ∧ (⟨id, p⟩ : Entry) ∈ es' ∧
      ∀ e : Entry, e.path ≠ p → (e ∈ es' ↔ e ∈ es) := by
  obtain ⟨ch, es', hu, hm⟩ := update_spec es hs id p
  exact ⟨ch, es', hu, (hm.2.1 _ rfl).2 (List.mem_singleton.2 rfl), hm.2.2⟩

/-- `Index.Update` keeps the staging area canonical -/
theorem update_canonical (es : List Entry) (hs : Canonical es) (id p : Bytes) (ch : Bool) (es' : List Entry)
    (h : update es id p = .ok (ch, es')) : Canonical es' := by
  obtain ⟨_, _, hu, hm⟩ := update_spec es hs id p
  cases hu.symm.trans h
  exact hm.1

/-- `Index.DeleteEntry` removes the named path and nothing else -/
theorem delete_frame (es : List Entry) (hs : Canonical es) (p : Bytes) (es' : List Entry) (h : delete es p = .ok es') :
    Canonical es' ∧ ∀ e : Entry, e.path ≠ p → (e ∈ es' ↔ e ∈ es) :=
  (delete_spec es hs p es' h).imp_right And.right

end C04
