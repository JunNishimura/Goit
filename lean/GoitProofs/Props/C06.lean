import GoitProofs.Lemmas.BSearch
import GoitProofs.Lemmas.Bytes
import GoitProofs.Lemmas.IndexCodec

/-! # C06 — Staging-area file is canonical and lossless; every tracked path is addressable -/

-- general facts about `Res`, here because C06 is the lowest file below all their users (C04Cmd, C09, C18World)
theorem Res.of_ite_err {α : Type} {c : Prop} [Decidable c] {a : Res α} {r : α}
    (h : (if c then a else .err) = .ok r) : c ∧ a = .ok r := by
  split at h
  · exact ⟨‹c›, h⟩
  · cases h

theorem Res.map_ne_crash {α β} {f : α → β} {r : Res α} (h : r ≠ .crash) : r.map f ≠ .crash := by
  cases r with
  | crash => exact absurd rfl h
  | _ => nofun

theorem Res.bind_ne_crash {α β} {f : α → Res β} {r : Res α} (h : r ≠ .crash) (hf : ∀ a, f a ≠ .crash) : r.bind f ≠ .crash := by
  cases r with
  | crash => exact absurd rfl h
  | err => nofun
  | ok a => exact hf a

theorem Res.foldl_ne_crash {α β} (step : Res β → α → Res β) (hs : ∀ acc x, acc ≠ .crash → step acc x ≠ .crash) :
    ∀ (l : List α) (acc : Res β), acc ≠ .crash → l.foldl step acc ≠ .crash
  | [], _, h => h
  | x :: l, acc, h => Res.foldl_ne_crash step hs l _ (hs acc x h)

namespace C06

open IndexFile IndexOps

/-- an in-memory index the file format can carry -/
def IdxOK (ix : Idx) : Prop :=
  ix.sig.length = 4 ∧ ix.version < 4294967296 ∧ ix.entries.length < 4294967296 ∧ ∀ e ∈ ix.entries, EntryOK e

/-- **The on-disk staging area decodes to exactly the entries written**: entry count, 20-byte ids and
    complete path bytes, for every entry list (any names, any ids). -/
theorem decode_encode (ix : Idx) (h : IdxOK ix) : decode (encode ix) = some ix := by
  obtain ⟨hs, hv, hn, he⟩ := h
  have h8 : (ix.sig ++ be32 ix.version).length = 8 := by simp [hs, be32_length]
  have h12 : (ix.sig ++ be32 ix.version ++ be32 ix.entries.length).length = 12 := by simp [hs, be32_length]
  have hd := decodeEntries_encode ix.entries [] he
  rw [List.append_nil] at hd
  unfold decode encode
  rw [Nat.mod_eq_of_lt hn]
  have hlen : ¬ (ix.sig ++ be32 ix.version ++ be32 ix.entries.length ++ (ix.entries.map encodeEntry).flatten).length < 12 := by
    rw [List.length_append, h12]; omega
  simp only [hlen, if_false, List.drop_left' h12]
  have e4 : ∀ t : Bytes, (ix.sig ++ be32 ix.version ++ be32 ix.entries.length ++ t).take 4 = ix.sig := fun t => by
    simp only [List.append_assoc]; exact List.take_left' hs
  have e48 : ∀ t : Bytes, ((ix.sig ++ be32 ix.version ++ be32 ix.entries.length ++ t).drop 4).take 4 = be32 ix.version := fun t => by
    simp only [List.append_assoc]; rw [List.drop_left' hs]; exact List.take_left' (be32_length _)
  have e812 : ∀ t : Bytes, ((ix.sig ++ be32 ix.version ++ be32 ix.entries.length ++ t).drop 8).take 4 = be32 ix.entries.length := fun t => by
    rw [List.append_assoc (ix.sig ++ be32 ix.version), List.drop_left' h8]; exact List.take_left' (be32_length _)
  simp only [e4, e48, e812, rd32_be32 _ hv, rd32_be32 _ hn, hd]

/-- the tracked paths are in strictly ascending byte order (hence duplicate free) -/
def Canonical (es : List Entry) : Prop := SortedKeys (paths es)

/-- **Every tracked path is addressable**: on a canonical index the lookup finds exactly the tracked
    paths, at their position, never reports an untracked path, and never indexes out of range. -/
theorem getEntry_correct (es : List Entry) (hs : Canonical es) (p : Bytes) :
    (∀ i, (h : i < es.length) → es[i].path = p → getEntry es p = .found i) ∧
    ((∀ e ∈ es, e.path ≠ p) → getEntry es p = .notFound) ∧ getEntry es p ≠ .crash := by
  simpa only [getEntry, paths, List.length_map, List.getElem_map, List.mem_map, not_exists, not_and, ne_eq] using
    bsearchTop_correct (paths es) hs p

theorem sublist_canonical {es es' : List Entry} (h : es'.Sublist es) (hs : Canonical es) : Canonical es' :=
  List.Pairwise.sublist (h.map _) hs

theorem filter_canonical (es : List Entry) (hs : Canonical es) (f : Entry → Bool) : Canonical (es.filter f) :=
  sublist_canonical List.filter_sublist hs

theorem canonical_nodup (es : List Entry) (hs : Canonical es) : (paths es).Nodup := hs.nodup

theorem canonical_pos (es : List Entry) (hs : Canonical es) (i j : Nat) (hi : i < es.length) (hj : j < es.length)
    (h : es[i].path = es[j].path) : i = j := by
  have hp := List.pairwise_iff_getElem.1 (List.pairwise_map.1 hs)
  rcases Nat.lt_trichotomy i j with hl | he | hl
  · exact absurd (hp i j hi hj hl) (h ▸ List.lt_irrefl _)
  · exact he
  · exact absurd (hp j i hj hi hl) (h ▸ List.lt_irrefl _)

theorem canonical_inj (es : List Entry) (hs : Canonical es) (a b : Entry) (ha : a ∈ es) (hb : b ∈ es)
    (h : a.path = b.path) : a = b := by
  obtain ⟨i, hi, rfl⟩ := List.getElem_of_mem ha
  obtain ⟨j, hj, rfl⟩ := List.getElem_of_mem hb
  cases canonical_pos es hs i j hi hj h
  rfl

theorem canonical_ext (l1 l2 : List Entry) (h1 : Canonical l1) (h2 : Canonical l2) (h : ∀ e, e ∈ l1 ↔ e ∈ l2) :
    l1 = l2 :=
  have nodup (l : List Entry) (hl : Canonical l) : l.Nodup :=
    List.Pairwise.of_map Entry.path (fun _ _ hne e => hne (e ▸ rfl)) (canonical_nodup l hl)
  List.Perm.eq_of_pairwise (fun _ _ _ _ hab hba => absurd hba (List.lt_asymm hab))
    (List.pairwise_map.1 h1) (List.pairwise_map.1 h2) ((List.perm_ext_iff_of_nodup (nodup l1 h1) (nodup l2 h2)).2 h)

theorem getEntry_cases (es : List Entry) (hs : Canonical es) (p : Bytes) :
    (∃ i, ∃ hi : i < es.length, es[i].path = p ∧ getEntry es p = .found i) ∨
    ((∀ e ∈ es, e.path ≠ p) ∧ getEntry es p = .notFound) := by
  simpa only [getEntry, paths, List.length_map, List.getElem_map, List.mem_map, not_exists, not_and, ne_eq] using
    bsearchTop_cases (paths es) hs p

theorem found_iff (es : List Entry) (hs : Canonical es) (p : Bytes) : found es p = true ↔ ∃ e ∈ es, e.path = p := by
  rcases getEntry_cases es hs p with ⟨i, hi, hp, hg⟩ | ⟨hn, hg⟩
  · simp only [found, hg, true_iff]; exact ⟨es[i], List.getElem_mem hi, hp⟩
  · simp only [found, hg, Bool.false_eq_true, false_iff]; exact fun ⟨e, he, hp⟩ => hn e he hp

/-- what "beneath the directory `d`" means: the path starts with `d/` and goes on -/
def Beneath (d p : Bytes) : Prop := (d ++ [47]) <+: p ∧ (d ++ [47]).length < p.length

theorem under_iff (d p : Bytes) : under d p = true ↔ Beneath d p := by
  simp [under, Beneath, Bytes.hasPrefix_iff]

/-- **A name is a tracked directory iff some tracked path lies beneath `<name>/`** — for every name,
    including names with regexp metacharacters, and never because a path merely contains the name. -/
theorem isDir_iff (es : List Entry) (d : Bytes) : isDir es d = true ↔ ∃ e ∈ es, Beneath d e.path := by
  simp [isDir, under_iff]

/-- the test `rm` and `restore` make on an argument: it names a tracked path or a tracked directory -/
theorem known_iff (es : List Entry) (hs : Canonical es) (p : Bytes) :
    (found es p || isDir es p) = true ↔ (∃ e ∈ es, e.path = p) ∨ ∃ e ∈ es, Beneath p e.path := by
  rw [Bool.or_eq_true, found_iff es hs, isDir_iff]

/-- **A directory operation selects exactly the tracked paths beneath that directory**, in index order. -/
theorem mem_byDir (es : List Entry) (d : Bytes) (e : Entry) : e ∈ byDir es d ↔ e ∈ es ∧ Beneath d e.path := by
  simp [byDir, under_iff]

theorem byDir_sublist (es : List Entry) (d : Bytes) : (byDir es d).Sublist es := List.filter_sublist

/-- `ad/x` and `d-old` are not beneath `d`; `d/x` is (the pinned code selected all three for `ad/x`). -/
example : byDir [⟨[], asc "ad/x"⟩, ⟨[], asc "d-old"⟩, ⟨[], asc "d/x"⟩] (asc "d") = [⟨[], asc "d/x"⟩] := by decide +kernel
/-- with siblings that sort between `test` and `test/`, the directory is still recognised -/
example : isDir [⟨[], asc "test-data"⟩, ⟨[], asc "test.c"⟩, ⟨[], asc "test/x"⟩] (asc "test") = true := by decide +kernel
example : getEntry [⟨[], asc "test-data"⟩, ⟨[], asc "test.c"⟩, ⟨[], asc "test/x"⟩] (asc "test/x") = .found 2 := by
  decide +kernel
/-- non-vacuity of `Canonical` and `IdxOK` -/
example : Canonical [⟨[], asc "test-data"⟩, ⟨[], asc "test.c"⟩, ⟨[], asc "test/x"⟩] := by
  unfold Canonical SortedKeys; decide +kernel

end C06
