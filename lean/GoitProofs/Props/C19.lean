import GoitProofs.Props.C01
import GoitProofs.Lemmas.BSearch

/-! # C19 — Decoders are total: damaged files give errors, not crashes or wrong data

In the model every decoder is a total function into `Option`/`Res`: `Obj.decode`, `TreeCodec.walk`,
`Commit.parse`, `Sign.parse`, `IndexFile.decode`, `Config.parse`, `Head.parse`, `readHash`,
`Reflog.parse` cannot panic by construction (Lean accepts the definitions only with their termination
proofs); that the *code* behaves like these definitions on damaged input is what the correspondence
run checks. The theorems below are the parts that are not by type. -/

namespace C19

/-- the only panic left in `GetObject` is the empty id (slicing `hash.String()[:2]`) -/
theorem get_crash_iff (H : HashFn) (s : Store) (id : Bytes) : Store.get H s id = .crash ↔ id = [] := by
  unfold Store.get
  split
  · simpa
  · refine iff_of_false ?_ ‹_›
    split
    · nofun
    · split
      · nofun
      · split <;> nofun

/-- **A damaged object is never returned as if it were the requested content**: whatever bytes the
    file holds, a successful read returns content that hashes to the requested id (so a truncated,
    bit-flipped or swapped file is an error, up to a hash collision). -/
theorem get_returns_requested (H : HashFn) (s : Store) (id : Bytes) (kd : Kind × Bytes)
    (h : Store.get H s id = .ok kd) :
    ∃ content, s id = some content ∧ H.sha content = id ∧ Obj.decode content = some kd :=
  (C01.get_eq_ok_iff H s id kd).1 h

/-- the kind table is strict: no reader ever yields the `undefined` kind -/
theorem parse_ne_undefined (s : Bytes) (k : Kind) (h : Kind.parse s = some k) : k ≠ .undefined := by
  rintro rfl
  revert h
  fun_cases Kind.parse s <;> nofun

/-- **No unbounded work or allocation from a forged entry count**: decoding `n` entries succeeds only
    if the file really holds them (≥ 22 bytes each), so the number of entries built is bounded by the
    file size, whatever the header claims. -/
theorem decodeEntries_bounded (n : Nat) (buf : Bytes) (es : List Entry) (h : IndexFile.decodeEntries n buf = some es) :
    es.length = n ∧ 22 * n ≤ buf.length := by
  -- the cases of `decodeEntries`: 1 count exhausted, 2–4 a short read, 5 an entry and the rest decoded, 6 the rest fails
  fun_induction IndexFile.decodeEntries n buf generalizing es with
  | case1 => cases h; exact ⟨rfl, Nat.zero_le _⟩
  | case5 n buf h1 id r1 h2 len r2 h3 es' hr ih =>
    cases h
    obtain ⟨hl, hb⟩ := ih es' hr
    simp only [r2, r1, List.length_drop] at hb h2 h3
    exact ⟨congrArg (· + 1) hl, by omega⟩
  | _ => cases h

/-- a forged count of 2^32−1 on a short file is an error, not an allocation -/
example : IndexFile.decode (asc "DIRC" ++ [0,0,0,1, 255,255,255,255] ++ List.replicate 40 0) = none := by decide +kernel

set_option linter.unusedVariables false in
/-- the lookups never index out of range on canonical data -/
theorem lookups_never_crash (keys : List Bytes) (hs : SortedKeys keys) (x : Bytes) : bsearchTop keys x ≠ .crash :=
  bsearchTop_no_crash keys x

end C19
