import GoitProofs.Lemmas.Bytes
import GoitProofs.Lemmas.BSearch
import GoitProofs.Lemmas.IndexCodec
import GoitProofs.Lemmas.TreeBuild
import GoitProofs.Lemmas.Hex
import GoitProofs.Lemmas.Lines
import GoitProofs.Props.C01
import GoitProofs.Props.C02
import GoitProofs.Props.C05
import GoitProofs.Props.C06
import GoitProofs.Props.C11
import GoitProofs.Props.C12
import GoitProofs.Props.C03
import GoitProofs.Props.C04
import GoitProofs.Props.C07
import GoitProofs.Props.C08
import GoitProofs.Props.C10
import GoitProofs.Props.C14
import GoitProofs.Props.C17
import GoitProofs.Props.C18
import GoitProofs.Props.C19
import GoitProofs.Props.C20
import GoitProofs.Props.C15
import GoitProofs.Props.C05Store
import GoitProofs.Props.C09
import GoitProofs.Props.C13
import GoitProofs.Props.C12Commit
import GoitProofs.Props.C03H
import GoitProofs.Props.C10Abs
import GoitProofs.Props.C04Cmd
import GoitProofs.Lemmas.TreeKeys
import GoitProofs.Props.C07Tree
import GoitProofs.Props.C11Abs
import GoitProofs.Props.C02Cmd
import GoitProofs.Props.C08Cmd
import GoitProofs.Props.C17Cmd
import GoitProofs.Props.C10Refine
import GoitProofs.Props.C20Cmd
import GoitProofs.Lemmas.World
import GoitProofs.Lemmas.WorldCases
import GoitProofs.Lemmas.WorldStore
import GoitProofs.Props.WorldFrame
import GoitProofs.Props.C03Conn
import GoitProofs.Props.C18World
import GoitProofs.Props.C10Faith
import GoitProofs.Props.C02Spec
import GoitProofs.Props.WorldAgree
import GoitProofs.Lemmas.WalkMono
import GoitProofs.Props.C05World
import GoitProofs.Props.C06Gen
import GoitProofs.Props.C06Full
import GoitProofs.Props.C03Closure
import GoitProofs.Props.C03Inputs
import GoitProofs.Props.C02World
import GoitProofs.Props.C08World
import GoitProofs.Props.C14World
import GoitProofs.Props.C11World
import GoitProofs.Props.C11Head0
import GoitProofs.Props.C07World
import GoitProofs.Props.C04World
import GoitProofs.Props.C17World
import GoitProofs.Props.C20End
import GoitProofs.Props.C01World
import GoitProofs.Props.C09World
import GoitProofs.Props.C13World
import GoitProofs.Props.C10Switch
